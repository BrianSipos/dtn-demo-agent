/-
  Converse of TcpclAck: every transfer recorded as completely received has had its final XFER_ACK emitted.
-/
import DtnVerif.Lemmas.TcpclTr
namespace DtnVerif
namespace Tcpcl

def EndAcked (t : Nat) (ms : List Msg) : Prop := ∃ f l, hasEnd f = true ∧ Msg.xferAck f t l ∈ ms

theorem EndAcked.mono {t : Nat} {ms : List Msg} (x : List Msg) (h : EndAcked t ms) : EndAcked t (ms ++ x) := by
  obtain ⟨f, l, h1, h2⟩ := h
  exact ⟨f, l, h1, List.mem_append_left _ h2⟩

def RxAckInv (e : Ep) : Prop := ∀ p ∈ e.rxLog, EndAcked p.1 e.emitted

structure RxAckView where
  rxLog : List (Nat × Bytes)
  emitted : List Msg

def Ep.rxAckView (e : Ep) : RxAckView := ⟨e.rxLog, e.emitted⟩

theorem rxAckInv_of_view {e e' : Ep} (h : e'.rxAckView = e.rxAckView) (hi : RxAckInv e) : RxAckInv e' := by
  simp only [Ep.rxAckView, RxAckView.mk.injEq] at h
  obtain ⟨h1, h2⟩ := h
  unfold RxAckInv at *
  rw [h1, h2]; exact hi

@[simp] theorem rv_kaReset (e : Ep) : (kaReset e).rxAckView = e.rxAckView := rfl
@[simp] theorem rv_idleReset (e : Ep) : (idleReset e).rxAckView = e.rxAckView := rfl

theorem rxAckInv_sent (e : Ep) (m : Msg) (hi : RxAckInv e) : RxAckInv (e.sent m) := by
  intro p hp
  have := hi p hp
  simp only [Ep.sent]
  exact this.mono [m]

/-- the only transaction that logs a transfer is the one that emits its final acknowledgement -/
theorem rxAckInv_tr {k : Kind} {a b : Ep} (h : Tr k a b) (hi : RxAckInv a) : RxAckInv b := by
  cases h with
  | contact => exact rxAckInv_of_view (e := a.sent (.contact 0)) rfl (rxAckInv_sent a _ hi)
  | init =>
    exact rxAckInv_of_view (e := a.sent (.sessInit a.cfg.keepalive a.cfg.segMru sizeMax a.cfg.nodeId
      (sessionExt a.cfg))) rfl (rxAckInv_sent a _ hi)
  | term _ f r _ => exact rxAckInv_sent a _ hi
  | kaFire _ _ => exact rxAckInv_sent _ _ hi
  | segMid _ it sent f x d n _ _ =>
    exact rxAckInv_of_view (e := a.sent (.xferSegment f it.tid x d)) rfl (rxAckInv_sent a _ hi)
  | segEnd _ it sent f x d _ _ =>
    exact rxAckInv_of_view (e := a.sent (.xferSegment f it.tid x d)) rfl (rxAckInv_sent a _ hi)
  | reject _ r m => exact rxAckInv_sent _ _ hi
  | rxMid _ f t x d cur _ _ _ => exact rxAckInv_sent _ _ hi
  | rxEnd _ f t x d cur _ _ he =>
    intro p hp
    simp only [Ep.sent, Ep.proc, List.mem_append, List.mem_singleton] at hp ⊢
    rcases hp with hp | hp
    · exact (hi p hp).mono _
    · subst hp
      exact ⟨f, (cur ++ d).length, he, by simp⟩
  | _ => exact hi

theorem rxAckInv_step (e : Ep) (ev : Ev) (hi : RxAckInv e) : RxAckInv (step e ev).1 :=
  step_inv (fun _ _ _ => rxAckInv_tr) e ev hi

theorem rxAckInv_init (cfg : Cfg) : RxAckInv { cfg := cfg } := by
  intro m hm; simp at hm

theorem rxAckInv_run (evs : List Ev) (e : Ep) (hi : RxAckInv e) : RxAckInv (runEp e evs) :=
  run_inv rxAckInv_step evs e hi

end Tcpcl
end DtnVerif
