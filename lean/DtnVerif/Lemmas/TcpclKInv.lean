/-
  Every transfer whose final segment was emitted is awaiting its final acknowledgement, or has been
  reported successful, or was refused by the peer.
-/
import DtnVerif.Lemmas.TcpclTr
namespace DtnVerif
namespace Tcpcl

def Refused (t : Nat) (ps : List Msg) : Prop := ∃ r, Msg.xferRefuse r t ∈ ps

def kOK (pa su : List Nat) (ps : List Msg) : Msg → Prop
  | .xferSegment f t _ _ => hasEnd f = true → t ∈ pa ∨ t ∈ su ∨ Refused t ps
  | _ => True

theorem kOK_mono {pa pa' su su' : List Nat} {ps ps' : List Msg} {m : Msg}
    (hpa : ∀ t ∈ pa, t ∈ pa' ∨ t ∈ su' ∨ Refused t ps') (hsu : ∀ t ∈ su, t ∈ su') (hps : ∀ x ∈ ps, x ∈ ps')
    (h : kOK pa su ps m) : kOK pa' su' ps' m := by
  cases m <;> simp only [kOK] at h ⊢
  intro he
  rcases h he with h | h | ⟨r, h⟩
  · exact hpa _ h
  · exact Or.inr (Or.inl (hsu _ h))
  · exact Or.inr (Or.inr ⟨r, hps _ h⟩)

def KInv (e : Ep) : Prop := ∀ m ∈ e.emitted, kOK e.txPendAck e.successLog e.processed m

structure KView where
  txPendAck : List Nat
  successLog : List Nat
  processed : List Msg
  emitted : List Msg

def Ep.kView (e : Ep) : KView := ⟨e.txPendAck, e.successLog, e.processed, e.emitted⟩

theorem kInv_of_view {e e' : Ep} (h : e'.kView = e.kView) (hi : KInv e) : KInv e' := by
  simp only [Ep.kView, KView.mk.injEq] at h
  obtain ⟨h1, h2, h3, h4⟩ := h
  unfold KInv at *
  rw [h1, h2, h3, h4]; exact hi

@[simp] theorem kv_kaReset (e : Ep) : (kaReset e).kView = e.kView := rfl
@[simp] theorem kv_idleReset (e : Ep) : (idleReset e).kView = e.kView := rfl

theorem kInv_mono {a b : Ep} (hi : KInv a) (hem : b.emitted = a.emitted)
    (hpa : ∀ t ∈ a.txPendAck, t ∈ b.txPendAck ∨ t ∈ b.successLog ∨ Refused t b.processed)
    (hsu : ∀ t ∈ a.successLog, t ∈ b.successLog) (hps : ∀ x ∈ a.processed, x ∈ b.processed) : KInv b :=
  fun m hm => kOK_mono hpa hsu hps (hi m (hem ▸ hm))

theorem kInv_proc (e : Ep) (m : Msg) (hi : KInv e) : KInv (e.proc m) :=
  kInv_mono hi rfl (fun _ h => Or.inl h) (fun _ h => h) (fun _ h => List.mem_append_left _ h)

theorem kInv_sent (e : Ep) (m : Msg) (hi : KInv e) (hm : kOK e.txPendAck e.successLog e.processed m := by trivial) :
    KInv (e.sent m) := by
  intro x hx
  simp only [Ep.sent, List.mem_append, List.mem_singleton] at hx ⊢
  rcases hx with hx | hx
  · exact hi x hx
  · subst hx; exact hm

theorem mem_erase_or {l : List Nat} (t : Nat) {x : Nat} (h : x ∈ l) : x = t ∨ x ∈ l.erase t := by
  by_cases hx : x = t
  · exact Or.inl hx
  · exact Or.inr ((List.mem_erase_of_ne hx).mpr h)

theorem kInv_tr {k : Kind} {a b : Ep} (h : Tr k a b) (hi : KInv a) : KInv b := by
  cases h with
  | contact => exact kInv_of_view (e := a.sent (.contact 0)) rfl (kInv_sent a _ hi)
  | init =>
    exact kInv_of_view (e := a.sent (.sessInit a.cfg.keepalive a.cfg.segMru sizeMax a.cfg.nodeId
      (sessionExt a.cfg))) rfl (kInv_sent a _ hi)
  | term _ f r _ => exact kInv_sent a _ hi
  | kaFire _ _ => exact kInv_sent _ _ hi
  | segMid _ it sent f x d n _ he =>
    exact kInv_of_view (e := a.sent (.xferSegment f it.tid x d)) rfl
      (kInv_sent a _ hi (fun h => absurd (he.symm.trans h) Bool.false_ne_true))
  | segEnd _ it sent f x d _ _ =>
    -- the final segment goes out and its transfer becomes pending in the same transaction
    have h1 : KInv { a with txPendAck := a.txPendAck ++ [it.tid] } :=
      kInv_mono hi rfl (fun _ h => Or.inl (List.mem_append_left _ h)) (fun _ h => h) (fun _ h => h)
    refine kInv_of_view (e := Ep.sent { a with txPendAck := a.txPendAck ++ [it.tid] } (.xferSegment f it.tid x d))
      ?_ (kInv_sent _ _ h1 (fun _ => Or.inl (List.mem_append_right _ (List.mem_singleton_self _))))
    rfl
  | proc _ m _ => exact kInv_proc a m hi
  | reject _ r m _ => exact kInv_sent _ _ (kInv_proc a m hi)
  | merge _ p x => exact kInv_proc a (.sessInit p.keepalive p.segMru p.xferMru p.node x) hi
  | gotTerm _ f r _ _ => exact kInv_proc a (.sessTerm f r) hi
  | rxMid _ f t x d cur _ _ _ => exact kInv_sent _ _ (kInv_proc a (.xferSegment f t x d) hi)
  | rxEnd _ f t x d cur _ _ _ =>
    exact kInv_of_view (e := (a.proc (.xferSegment f t x d)).sent (.xferAck f t (cur ++ d).length)) rfl
      (kInv_sent _ _ (kInv_proc a _ hi))
  | ackEnd _ f t l _ _ _ _ =>
    -- the acknowledged transfer moves from `txPendAck` to `successLog`
    refine kInv_mono hi rfl (fun x h => ?_) (fun _ h => List.mem_append_left _ h) (fun _ h => List.mem_append_left _ h)
    rcases mem_erase_or t h with rfl | h
    · exact Or.inr (Or.inl (List.mem_append_right _ (List.mem_singleton_self _)))
    · exact Or.inl h
  | ackMid _ f t l _ _ _ => exact kInv_proc a (.xferAck f t l) hi
  | refused _ r t _ _ =>
    -- the refusal is recorded in the transaction that takes the transfer out of `txPendAck`
    refine kInv_mono hi rfl (fun x h => ?_) (fun _ h => h) (fun _ h => List.mem_append_left _ h)
    rcases mem_erase_or t h with rfl | h
    · exact Or.inr (Or.inr ⟨r, List.mem_append_right _ (List.mem_singleton_self _)⟩)
    · exact Or.inl h
  | _ => exact hi

theorem kInv_step (e : Ep) (ev : Ev) (hi : KInv e) : KInv (step e ev).1 :=
  step_inv (fun _ _ _ => kInv_tr) e ev hi

theorem kInv_init (cfg : Cfg) : KInv { cfg := cfg } := by
  intro m hm; simp at hm

theorem kInv_run (evs : List Ev) (e : Ep) (hi : KInv e) : KInv (runEp e evs) :=
  run_inv kInv_step evs e hi

end Tcpcl
end DtnVerif
