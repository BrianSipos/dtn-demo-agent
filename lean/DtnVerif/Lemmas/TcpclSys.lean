/-
  Two-endpoint composition: transport lemma (what one side has processed is a prefix of what the
  other has emitted) and the system invariant, by circular assume-guarantee over the schedule.
-/
import DtnVerif.Model.TcpclSys
import DtnVerif.Lemmas.TcpclRun
import DtnVerif.Lemmas.TcpclFrame
import DtnVerif.Props.C07
import DtnVerif.Lemmas.TcpclEmit
import DtnVerif.Lemmas.TcpclAcc
import DtnVerif.Lemmas.TcpclCfg
import DtnVerif.Lemmas.TcpclLegalMore
namespace DtnVerif
namespace Tcpcl

theorem legalStep_phase {s s1 : LState} {m : Msg} (h : legalStep s m = some s1) :
    (if m.isContact then s.phase = 0 else 1 ≤ s.phase) ∧ 1 ≤ s1.phase := by
  cases m with
  | contact f => obtain ⟨h0, rfl⟩ := legalStep_inv h; exact ⟨h0, Nat.le_refl 1⟩
  | sessInit a b c d x =>
    obtain ⟨h1, rfl⟩ := legalStep_inv h
    exact ⟨Nat.le_of_eq h1.symm, Nat.le_succ 1⟩
  | _ =>
    obtain ⟨h2, h2'⟩ := legalStep_body_phase s s1 _ h trivial
    exact ⟨h2 ▸ Nat.le_succ 1, h2' ▸ Nat.le_succ 1⟩

theorem legalRun_noContact (s s' : LState) (ms : List Msg) (h : legalRun s ms = some s') (hp : 1 ≤ s.phase) :
    (∀ m ∈ ms, m.isContact = false) := by
  induction ms generalizing s with
  | nil => exact nofun
  | cons m ms ih =>
    obtain ⟨s1, hs, h⟩ := legalRun_cons_some h
    obtain ⟨h0, h1⟩ := legalStep_phase hs
    intro x hx
    rcases List.mem_cons.mp hx with rfl | hx
    · cases hc : x.isContact with
      | false => rfl
      | true => rw [hc, if_pos rfl] at h0; omega
    · exact ih s1 h h1 x hx

theorem legal_shape (ms : List Msg) (h : (legalRun {} ms).isSome) :
    ms = [] ∨ ∃ f rest, ms = .contact f :: rest ∧ ∀ m ∈ rest, m.isContact = false := by
  cases ms with
  | nil => exact Or.inl rfl
  | cons m rest =>
    obtain ⟨L, hL⟩ := Option.isSome_iff_exists.mp h
    obtain ⟨s1, hs, hr⟩ := legalRun_cons_some hL
    obtain ⟨h0, h1⟩ := legalStep_phase hs
    cases m with
    | contact f => exact Or.inr ⟨f, rest, rfl, legalRun_noContact s1 L rest hr h1⟩
    | _ => exact (Nat.not_succ_le_zero 0 h0).elim

theorem stream_whole (ms : List Msg) (hl : (legalRun {} ms).isSome) (hwf : ∀ m ∈ ms, m.WF) :
    ∃ rx, rx.buf = [] ∧ feed {} (encodeAll ms) = (rx, ms) := by
  rcases legal_shape ms hl with rfl | ⟨f, rest, rfl, hrest⟩
  · exact ⟨{}, rfl, by decide⟩
  · exact ⟨_, rfl, C07_stream f (hwf (.contact f) (by simp)) rest
      fun m hm => ⟨hwf m (by simp [hm]), hrest m hm⟩⟩

theorem stream_full (ms : List Msg) (hl : (legalRun {} ms).isSome) (hwf : ∀ m ∈ ms, m.WF) :
    (feed {} (encodeAll ms)).2 = ms := by
  obtain ⟨rx, _, h⟩ := stream_whole ms hl hwf
  rw [h]

theorem stream_prefix (ms : List Msg) (bytes : Bytes) (hl : (legalRun {} ms).isSome)
    (hwf : ∀ m ∈ ms, m.WF) (hb : bytes <+: encodeAll ms) : (feed {} bytes).2 <+: ms := by
  obtain ⟨t, ht⟩ := hb
  have hp := C07_prefix_messages {} bytes t
  rwa [ht, stream_full ms hl hwf] at hp

theorem PumpInv.accepted_prefix {e : Ep} (h : PumpInv e) : e.accepted <+: encodeAll e.emitted :=
  ⟨e.connBuf ++ e.txBuf, by rw [← List.append_assoc]; exact h.symm⟩

theorem PumpInv.accepted_eq {e : Ep} (h : PumpInv e) (h1 : e.txBuf = []) (h2 : e.connBuf = []) :
    e.accepted = encodeAll e.emitted := by
  have : encodeAll e.emitted = e.accepted ++ e.connBuf ++ e.txBuf := h
  rw [this, h1, h2, List.append_nil, List.append_nil]

theorem TxInv.legal {e : Ep} {P : LState} (h : TxInv e P) : Legal e.emitted := by
  have : legalRun {} e.emitted = some _ := h.L
  unfold Legal; rw [this]; rfl

theorem TxInv.processed_legal {e : Ep} {P : LState} (h : TxInv e P) : Legal e.processed := by
  have : legalRun {} e.processed = some P := h.hP
  unfold Legal; rw [this]; rfl

theorem TxInv.spec_emitted {e : Ep} {P : LState} (h : TxInv e P) :
    rxSpec e.emitted = ⟨e.sentInit, e.txTmp.map (fun p => (p.1.tid, p.1.data.take p.2)),
      (e.sendLog.take (e.nStarted - if e.txTmp.isSome then 1 else 0)).map fun it => (it.tid, it.data)⟩ :=
  h.D

theorem TxInv.deliver_emitted {e : Ep} {P : LState} (h : TxInv e P) :
    deliver e.emitted = (e.sendLog.take (e.nStarted - if e.txTmp.isSome then 1 else 0)).map
      fun it => (it.tid, it.data) :=
  congrArg RxSpec.done h.spec_emitted

theorem txInv_started_run (cfg : Cfg) (evs : List Ev) (h1 : 0 < cfg.segInit) (h2 : cfg.privExt = false)
    (hsend : ∀ d, Ev.send d ∈ evs → d.length < 2 ^ 64)
    (hleg : Legal (runEp (started cfg) evs).processed)
    (hok : ∀ m ∈ (runEp (started cfg) evs).processed, okMsg m) :
    ∃ P, TxInv (runEp (started cfg) evs) P :=
  txInv_run evs _ {} (txInv_started cfg h1 h2) (timerInv_started cfg) hsend hleg hok

theorem rxBytes_step_nonrx (e : Ep) (ev : Ev) (hne : ∀ c, ev ≠ .rx c) : (step e ev).1.rxBytes = e.rxBytes :=
  congrArg RxView.rxBytes (rxView_step_nonrx e ev hne)

theorem processed_step_nonrx (e : Ep) (ev : Ev) (hne : ∀ c, ev ≠ .rx c) :
    (step e ev).1.processed = e.processed :=
  congrArg RxView.processed (rxView_step_nonrx e ev hne)

theorem rxBytes_step_rx (e : Ep) (c : Bytes) (hc : e.closed = false) :
    (step e (.rx c)).1.rxBytes = e.rxBytes ++ c := by
  rw [step_rx e c hc]
  exact (recvRaw_frame e c).2.1

structure EpInv (e : Ep) : Prop where
  tx : ∃ P, TxInv e P
  timer : TimerInv e
  rx : RxInv e
  pump : PumpInv e
  frame : FrameInv e
  emit : EmitInv e
  okProc : ∀ m ∈ e.processed, okMsg m
  kc : KC e

theorem epInv_step (e : Ep) (ev : Ev) (hi : EpInv e) (hsend : ∀ d, ev = .send d → d.length < 2 ^ 64)
    (hleg : Legal (step e ev).1.processed) (hok : ∀ m ∈ (step e ev).1.processed, okMsg m) :
    EpInv (step e ev).1 := by
  obtain ⟨P, hP⟩ := hi.tx
  exact ⟨txInv_step e ev P hP hi.timer hsend hleg hok, timerInv_step e ev hi.timer, rxInv_step e ev hi.rx,
    pumpInv_step e ev hi.pump, frameInv_step e ev hi.frame,
    emitInv_step e ev hi.emit (fun h => hi.kc (hi.timer.1 h)), hok, kc_step e ev hi.kc⟩

theorem epInv_local (e : Ep) (ev : Ev) (hi : EpInv e) (hne : ∀ c, ev ≠ .rx c)
    (hsend : ∀ d, ev = .send d → d.length < 2 ^ 64) : EpInv (step e ev).1 := by
  obtain ⟨P, hP⟩ := hi.tx
  have hproc := processed_step_nonrx e ev hne
  exact epInv_step e ev hi hsend (by rw [hproc]; exact hP.processed_legal) (by rw [hproc]; exact hi.okProc)

theorem epInv_rx (e : Ep) (c : Bytes) (M : List Msg) (hi : EpInv e)
    (hM : (legalRun {} M).isSome) (hokM : ∀ m ∈ M, okMsg m)
    (hpre : (step e (.rx c)).1.processed <+: M) : EpInv (step e (.rx c)).1 :=
  epInv_step e _ hi (by intro d h; cases h) (legal_of_prefix hpre hM) fun m hm => hokM m (hpre.subset hm)

theorem epInv_started (cfg : Cfg) (h1 : 0 < cfg.segInit) (h2 : cfg.privExt = false) :
    EpInv (step { cfg := cfg } .start).1 := by
  have hproc : (step { cfg := cfg } .start).1.processed = [] :=
    processed_step_nonrx { cfg := cfg } .start (by intro c h; cases h)
  exact ⟨⟨{}, txInv_started cfg h1 h2⟩, timerInv_started cfg, rxInv_started cfg, pumpInv_started cfg,
    frameInv_step _ _ (frameInv_init cfg), emitInv_step _ _ (emitInv_init cfg) (by intro h; cases h),
    by rw [hproc]; exact nofun, kc_step _ _ (kc_init cfg)⟩

theorem emitted_legal {e : Ep} (hi : EpInv e) : (legalRun {} e.emitted).isSome := by
  obtain ⟨P, hP⟩ := hi.tx
  exact hP.legal

theorem emitted_ok {e : Ep} (hi : EpInv e) (hm : 0 < e.cfg.segMru) : ∀ m ∈ e.emitted, okMsg m := by
  intro m hmem
  have := hi.emit m hmem
  cases m with
  | xferRefuse r t => exact this
  | sessInit ka sm xm node ext => exact this.1 ▸ hm
  | _ => trivial

theorem EpInv.seg_le_mru {e : Ep} (hi : EpInv e) (p : PeerInit) (hp : e.peerInit = some p) :
    ∀ m ∈ e.emitted, segLen m ≤ p.segMru := by
  obtain ⟨P, hP⟩ := hi.tx
  exact (hP.mru.1 p hp).2.2

theorem EpInv.inSess_of_inTerm {e : Ep} (hi : EpInv e) (ht : e.inTerm = true) : e.inSess = true := by
  obtain ⟨P, hP⟩ := hi.tx
  exact hP.term ht

theorem processed_prefix_emitted (w r : Ep) (pipe : Bytes) (hw : EpInv w) (hr : FrameInv r)
    (hwf : ∀ m ∈ w.emitted, m.WF) (hwire : r.rxBytes ++ pipe = w.accepted) : r.processed <+: w.emitted :=
  hr.2.1.trans (stream_prefix w.emitted r.rxBytes (emitted_legal hw) hwf
    (List.IsPrefix.trans ⟨pipe, hwire⟩ hw.pump.accepted_prefix))

/-- What the system may feed `me` while `inp` is in flight towards it, and what then stays in flight.
    `quiet` is any event other than a read: no invariant distinguishes the local events from end-of-stream. -/
inductive Feeds (me : Ep) (inp : Bytes) : Ev → Bytes → Prop
  | quiet {ev : Ev} (hne : ∀ c, ev ≠ .rx c) : Feeds me inp ev inp
  | rx (k : Nat) (hc : me.closed = false) (hk : inp.take k ≠ []) : Feeds me inp (.rx (inp.take k)) (inp.drop k)

theorem Feeds.rx_ne {me : Ep} {inp inp' : Bytes} {ev : Ev} (h : Feeds me inp ev inp') :
    ∀ c, ev = .rx c → c ≠ [] := by
  cases h with
  | quiet hne => intro c hc; exact absurd hc (hne c)
  | rx k _ hk => intro c hc; cases hc; exact hk

theorem newWire_spec (e : Ep) (ev : Ev) : e.accepted ++ newWire e (step e ev).1 = (step e ev).1.accepted := by
  obtain ⟨t, ht⟩ := accepted_prefix_step e ev
  unfold newWire
  rw [← ht]; simp

theorem newWire_of_append (e e' : Ep) (w : Bytes) (h : e'.accepted = e.accepted ++ w) : newWire e e' = w := by
  unfold newWire; rw [h]; simp

def SysEv.sendOK : SysEv → Prop
  | .atA (.send d) => d.length < 2 ^ 64
  | .atB (.send d) => d.length < 2 ^ 64
  | _ => True

theorem newWire_rxEof (e : Ep) : newWire e (step e .rxEof).1 = [] :=
  newWire_of_append _ _ [] (by rw [accepted_step_nonpump e .rxEof (by intro n h; cases h), List.append_nil])

/-- end-of-stream in the shape of every other step (`sysStep` leaves the pipe alone; nothing is written) -/
theorem sysStep_eofA (s : Sys) (h : (s.b.closed && s.toA.isEmpty) = true) :
    sysStep s .eofA = ⟨(step s.a .rxEof).1, s.b, s.toB ++ newWire s.a (step s.a .rxEof).1, s.toA⟩ :=
  (if_pos h).trans (by rw [newWire_rxEof, List.append_nil])

theorem sysStep_eofB (s : Sys) (h : (s.a.closed && s.toB.isEmpty) = true) :
    sysStep s .eofB = ⟨s.a, (step s.b .rxEof).1, s.toB, s.toA ++ newWire s.b (step s.b .rxEof).1⟩ :=
  (if_pos h).trans (by rw [newWire_rxEof, List.append_nil])

theorem sysStep_cases (s : Sys) (ev : SysEv) : sysStep s ev = s
    ∨ (∃ e p, Feeds s.a s.toA e p ∧ (ev.sendOK → ∀ d, e = .send d → d.length < 2 ^ 64)
        ∧ sysStep s ev = ⟨(step s.a e).1, s.b, s.toB ++ newWire s.a (step s.a e).1, p⟩)
    ∨ (∃ e p, Feeds s.b s.toB e p ∧ (ev.sendOK → ∀ d, e = .send d → d.length < 2 ^ 64)
        ∧ sysStep s ev = ⟨s.a, (step s.b e).1, p, s.toA ++ newWire s.b (step s.b e).1⟩) := by
  have hloc : ∀ e : Ev, e.isLocal = true → ∀ c, e ≠ .rx c := by
    intro e hl c h; subst h; cases hl
  have hopen : ∀ (e : Ep) (c : Bytes), ¬ (e.closed || c.isEmpty) = true → e.closed = false ∧ c ≠ [] := by
    intro e c h
    cases hc : e.closed
    · exact ⟨rfl, by intro h0; apply h; rw [h0]; simp⟩
    · exact absurd (by rw [hc]; rfl) h
  cases ev with
  | atA e =>
    by_cases hl : e.isLocal = true
    · exact .inr (.inl ⟨e, s.toA, .quiet (hloc e hl), fun h d hd => by subst hd; exact h, if_pos hl⟩)
    · exact .inl (if_neg hl)
  | atB e =>
    by_cases hl : e.isLocal = true
    · exact .inr (.inr ⟨e, s.toB, .quiet (hloc e hl), fun h d hd => by subst hd; exact h, if_pos hl⟩)
    · exact .inl (if_neg hl)
  | deliverA k =>
    by_cases h : (s.a.closed || (s.toA.take k).isEmpty) = true
    · exact .inl (if_pos h)
    · obtain ⟨hc, hk⟩ := hopen _ _ h
      exact .inr (.inl ⟨_, _, .rx k hc hk, (by intro _ d hd; cases hd), if_neg h⟩)
  | deliverB k =>
    by_cases h : (s.b.closed || (s.toB.take k).isEmpty) = true
    · exact .inl (if_pos h)
    · obtain ⟨hc, hk⟩ := hopen _ _ h
      exact .inr (.inr ⟨_, _, .rx k hc hk, (by intro _ d hd; cases hd), if_neg h⟩)
  | eofA =>
    by_cases h : (s.b.closed && s.toA.isEmpty) = true
    · exact .inr (.inl ⟨.rxEof, s.toA, .quiet (by intro c hc; cases hc), (by intro _ d hd; cases hd),
        sysStep_eofA s h⟩)
    · exact .inl (if_neg h)
  | eofB =>
    by_cases h : (s.a.closed && s.toB.isEmpty) = true
    · exact .inr (.inr ⟨.rxEof, s.toB, .quiet (by intro c hc; cases hc), (by intro _ d hd; cases hd),
        sysStep_eofB s h⟩)
    · exact .inl (if_neg h)

theorem runSys_cons (s : Sys) (ev : SysEv) (sch : List SysEv) :
    runSys s (ev :: sch) = runSys (sysStep s ev) sch := rfl

theorem runSys_append (s : Sys) (l1 l2 : List SysEv) : runSys s (l1 ++ l2) = runSys (runSys s l1) l2 :=
  List.foldl_append

theorem runSys_preserves (P : Sys → Prop) (hstep : ∀ s ev, P s → P (sysStep s ev)) (sch : List SysEv) :
    ∀ s, P s → P (runSys s sch) := by
  induction sch with
  | nil => intro s h; exact h
  | cons ev sch ih => intro s h; exact ih _ (hstep s ev h)

theorem sys_lift_step' (H I : Ep → Prop)
    (hstep : ∀ e ev, (∀ c, ev = .rx c → c ≠ []) → H e → I e → I (step e ev).1) (s : Sys) (ev : SysEv)
    (Ha : H s.a) (Hb : H s.b) (h : I s.a ∧ I s.b) : I (sysStep s ev).a ∧ I (sysStep s ev).b := by
  rcases sysStep_cases s ev with h0 | ⟨e, p, hf, _, h1⟩ | ⟨e, p, hf, _, h1⟩
  · rw [h0]; exact h
  · rw [h1]; exact ⟨hstep _ _ hf.rx_ne Ha h.1, h.2⟩
  · rw [h1]; exact ⟨h.1, hstep _ _ hf.rx_ne Hb h.2⟩

theorem sys_lift_step (I : Ep → Prop) (hstep : ∀ e ev, I e → I (step e ev).1) (s : Sys) (ev : SysEv)
    (h : I s.a ∧ I s.b) : I (sysStep s ev).a ∧ I (sysStep s ev).b :=
  sys_lift_step' (fun _ => True) I (fun e ev _ _ => hstep e ev) s ev trivial trivial h

theorem sys_lift_run (I : Ep → Prop) (hstep : ∀ e ev, I e → I (step e ev).1) (sch : List SysEv) :
    ∀ s : Sys, I s.a ∧ I s.b → I (runSys s sch).a ∧ I (runSys s sch).b :=
  runSys_preserves (fun s => I s.a ∧ I s.b) (sys_lift_step I hstep) sch

theorem sys_lift_init (I : Ep → Prop) (hstep : ∀ e ev, I e → I (step e ev).1) (hinit : ∀ cfg, I { cfg := cfg })
    (cfgA cfgB : Cfg) (sch : List SysEv) :
    I (runSys (initSys cfgA cfgB) sch).a ∧ I (runSys (initSys cfgA cfgB) sch).b :=
  sys_lift_run I hstep sch _ ⟨hstep _ _ (hinit cfgA), hstep _ _ (hinit cfgB)⟩

theorem cfg_sysStep (s : Sys) (ev : SysEv) : (sysStep s ev).a.cfg = s.a.cfg ∧ (sysStep s ev).b.cfg = s.b.cfg := by
  rcases sysStep_cases s ev with h0 | ⟨e, p, _, _, h1⟩ | ⟨e, p, _, _, h1⟩
  · rw [h0]; exact ⟨rfl, rfl⟩
  · rw [h1]; exact ⟨cfg_step _ _, rfl⟩
  · rw [h1]; exact ⟨rfl, cfg_step _ _⟩

theorem cfg_reach (cfgA cfgB : Cfg) (sch : List SysEv) :
    (runSys (initSys cfgA cfgB) sch).a.cfg = cfgA ∧ (runSys (initSys cfgA cfgB) sch).b.cfg = cfgB :=
  runSys_preserves (fun s => s.a.cfg = cfgA ∧ s.b.cfg = cfgB)
    (fun s ev h => ⟨(cfg_sysStep s ev).1.trans h.1, (cfg_sysStep s ev).2.trans h.2⟩) sch _
    ⟨cfg_step _ _, cfg_step _ _⟩

structure SysInv (s : Sys) : Prop where
  ia : EpInv s.a
  ib : EpInv s.b
  wireB : s.b.rxBytes ++ s.toB = s.a.accepted
  wireA : s.a.rxBytes ++ s.toA = s.b.accepted
  mruA : 0 < s.a.cfg.segMru
  mruB : 0 < s.b.cfg.segMru

/-- explicit well-formedness assumption: every emitted message fits its wire fields
    (sizes and counters below 2^64, …) -/
def SysWF (s : Sys) : Prop := (∀ m ∈ s.a.emitted, m.WF) ∧ (∀ m ∈ s.b.emitted, m.WF)

/-- `me` moves, with `inp` in flight towards it and `out` away from it; for a read its invariants are kept
    by the peer's guarantee through transport -/
theorem sysInv_move (me peer : Ep) (inp out inp' : Bytes) (ev : Ev) (hf : Feeds me inp ev inp')
    (hme : EpInv me) (hpeer : EpInv peer) (hwf : ∀ m ∈ peer.emitted, m.WF) (hmru : 0 < peer.cfg.segMru)
    (hin : me.rxBytes ++ inp = peer.accepted) (hout : peer.rxBytes ++ out = me.accepted)
    (hs : ∀ d, ev = .send d → d.length < 2 ^ 64) :
    EpInv (step me ev).1 ∧ (step me ev).1.rxBytes ++ inp' = peer.accepted
      ∧ peer.rxBytes ++ (out ++ newWire me (step me ev).1) = (step me ev).1.accepted := by
  have hout' : peer.rxBytes ++ (out ++ newWire me (step me ev).1) = (step me ev).1.accepted := by
    rw [← List.append_assoc, hout]; exact newWire_spec me ev
  cases hf with
  | quiet hne => exact ⟨epInv_local me ev hme hne hs, by rw [rxBytes_step_nonrx me ev hne]; exact hin, hout'⟩
  | rx k hc hk =>
    have hin' : (step me (.rx (inp.take k))).1.rxBytes ++ inp.drop k = peer.accepted := by
      rw [rxBytes_step_rx me _ hc, List.append_assoc, List.take_append_drop]; exact hin
    have hpre := processed_prefix_emitted peer _ (inp.drop k) hpeer (frameInv_step me _ hme.frame) hwf hin'
    exact ⟨epInv_rx me _ peer.emitted hme (emitted_legal hpeer) (emitted_ok hpeer hmru) hpre, hin', hout'⟩

theorem sysInv_step (s : Sys) (ev : SysEv) (hi : SysInv s) (hwf : SysWF s) (hs : ev.sendOK) :
    SysInv (sysStep s ev) := by
  rcases sysStep_cases s ev with h0 | ⟨e, p, hf, hse, h1⟩ | ⟨e, p, hf, hse, h1⟩
  · rw [h0]; exact hi
  · rw [h1]
    obtain ⟨i, w1, w2⟩ := sysInv_move s.a s.b s.toA s.toB p e hf hi.ia hi.ib hwf.2 hi.mruB hi.wireA hi.wireB (hse hs)
    exact ⟨i, hi.ib, w2, w1, (cfg_step s.a e).symm ▸ hi.mruA, hi.mruB⟩
  · rw [h1]
    obtain ⟨i, w1, w2⟩ := sysInv_move s.b s.a s.toB s.toA p e hf hi.ib hi.ia hwf.1 hi.mruA hi.wireB hi.wireA (hse hs)
    exact ⟨hi.ia, i, w1, w2, hi.mruA, (cfg_step s.b e).symm ▸ hi.mruB⟩

theorem runSys_induct (P : Sys → Prop)
    (hstep : ∀ s ev, SysInv s → SysWF s → SysWF (sysStep s ev) → ev.sendOK → P s → P (sysStep s ev))
    (sch : List SysEv) (s : Sys) (hi : SysInv s) (hp : P s)
    (hwf : ∀ pre, pre <+: sch → SysWF (runSys s pre)) (hs : ∀ ev ∈ sch, ev.sendOK) :
    SysInv (runSys s sch) ∧ P (runSys s sch) := by
  induction sch generalizing s with
  | nil => exact ⟨hi, hp⟩
  | cons ev rest ih =>
    have h0 : SysWF s := hwf [] List.nil_prefix
    have h1 : SysWF (sysStep s ev) := hwf [ev] (List.cons_prefix_cons.mpr ⟨rfl, List.nil_prefix⟩)
    have hev : ev.sendOK := hs ev List.mem_cons_self
    exact ih _ (sysInv_step s ev hi h0 hev) (hstep s ev hi h0 h1 hev hp)
      (fun pre hpre => hwf (ev :: pre) (List.cons_prefix_cons.mpr ⟨rfl, hpre⟩))
      (fun e he => hs e (List.mem_cons_of_mem _ he))

theorem sysInv_run (sch : List SysEv) (s : Sys) (hi : SysInv s)
    (hwf : ∀ pre, pre <+: sch → SysWF (runSys s pre)) (hs : ∀ ev ∈ sch, ev.sendOK) :
    SysInv (runSys s sch) :=
  (runSys_induct (fun _ => True) (fun _ _ _ _ _ _ _ => trivial) sch s hi trivial hwf hs).1

theorem sysInv_init (cfgA cfgB : Cfg) (a1 : 0 < cfgA.segInit) (a2 : cfgA.privExt = false)
    (a3 : 0 < cfgA.segMru) (b1 : 0 < cfgB.segInit) (b2 : cfgB.privExt = false) (b3 : 0 < cfgB.segMru) :
    SysInv (initSys cfgA cfgB) := by
  have hrb : ∀ cfg : Cfg, (step { cfg := cfg } .start).1.rxBytes = [] := fun cfg =>
    rxBytes_step_nonrx { cfg := cfg } .start (by intro c h; cases h)
  have hacc : ∀ cfg : Cfg, (step { cfg := cfg } .start).1.accepted = [] := fun cfg =>
    accepted_step_nonpump _ _ (by intro n h; cases h)
  refine ⟨epInv_started cfgA a1 a2, epInv_started cfgB b1 b2, ?_, ?_, ?_, ?_⟩
  · show (step { cfg := cfgB } .start).1.rxBytes ++ [] = (step { cfg := cfgA } .start).1.accepted
    rw [hrb, hacc]; rfl
  · show (step { cfg := cfgA } .start).1.rxBytes ++ [] = (step { cfg := cfgB } .start).1.accepted
    rw [hrb, hacc]; rfl
  · show 0 < (step { cfg := cfgA } .start).1.cfg.segMru
    rw [cfg_step]; exact a3
  · show 0 < (step { cfg := cfgB } .start).1.cfg.segMru
    rw [cfg_step]; exact b3

theorem transport (s : Sys) (hi : SysInv s) (hwf : SysWF s) :
    s.b.processed <+: s.a.emitted ∧ s.a.processed <+: s.b.emitted :=
  ⟨processed_prefix_emitted s.a s.b s.toB hi.ia hi.ib.frame hwf.1 hi.wireB,
   processed_prefix_emitted s.b s.a s.toA hi.ib hi.ia.frame hwf.2 hi.wireA⟩

theorem reach (cfgA cfgB : Cfg) (sch : List SysEv)
    (a1 : 0 < cfgA.segInit) (a2 : cfgA.privExt = false) (a3 : 0 < cfgA.segMru)
    (b1 : 0 < cfgB.segInit) (b2 : cfgB.privExt = false) (b3 : 0 < cfgB.segMru)
    (hwf : ∀ pre, pre <+: sch → SysWF (runSys (initSys cfgA cfgB) pre))
    (hs : ∀ ev ∈ sch, ev.sendOK) :
    SysInv (runSys (initSys cfgA cfgB) sch) ∧ SysWF (runSys (initSys cfgA cfgB) sch)
    ∧ (runSys (initSys cfgA cfgB) sch).b.processed <+: (runSys (initSys cfgA cfgB) sch).a.emitted
    ∧ (runSys (initSys cfgA cfgB) sch).a.processed <+: (runSys (initSys cfgA cfgB) sch).b.emitted := by
  have hi := sysInv_run sch _ (sysInv_init cfgA cfgB a1 a2 a3 b1 b2 b3) hwf hs
  have hw := hwf sch (List.prefix_refl _)
  exact ⟨hi, hw, transport _ hi hw⟩

theorem rxSpecStep_done (s : RxSpec) (m : Msg) : s.done <+: (rxSpecStep s m).done := by
  unfold rxSpecStep
  cases m with
  | xferSegment f t e d =>
    simp only []
    split
    · exact List.prefix_refl _
    · split
      · exact List.prefix_refl _
      · split
        · exact List.prefix_append _ _
        · exact List.prefix_refl _
  | _ => exact List.prefix_refl _

theorem rxSpec_fold_done (t : List Msg) (s : RxSpec) : s.done <+: (t.foldl rxSpecStep s).done := by
  induction t generalizing s with
  | nil => exact List.prefix_refl _
  | cons m t ih => exact (rxSpecStep_done s m).trans (ih _)

theorem deliver_prefix {a b : List Msg} (h : a <+: b) : deliver a <+: deliver b := by
  obtain ⟨t, rfl⟩ := h
  unfold deliver rxSpec
  rw [List.foldl_append]
  exact rxSpec_fold_done t _

theorem rxLog_prefix_sendLog (w r : Ep) (hw : EpInv w) (hr : EpInv r) (ht : r.processed <+: w.emitted) :
    r.rxLog <+: w.sendLog.map (fun it => (it.tid, it.data)) := by
  obtain ⟨P, hP⟩ := hw.tx
  have h1 : r.rxLog = deliver r.processed := hr.rx.1
  have h3 := deliver_prefix ht
  rw [hP.deliver_emitted, ← h1, List.map_take] at h3
  exact h3.trans (List.take_prefix _ _)

end Tcpcl
end DtnVerif
