/- Reassembly by segment index in `Btpu.recvSeg`. -/
import DtnVerif.Model.Btpu
import DtnVerif.Lemmas.KeyedRecv
namespace DtnVerif
namespace Btpu

theorem getT_eq (k : Key) (l : List (Key × RxT)) : getT k l = Keyed.get k l := by
  induction l with
  | nil => rfl
  | cons e l ih => obtain ⟨k', x⟩ := e; simp only [getT, Keyed.get, ih]

theorem delT_eq (k : Key) (l : List (Key × RxT)) : delT k l = Keyed.del k l := by
  induction l with
  | nil => rfl
  | cons e l ih => obtain ⟨k', x⟩ := e; simp only [delT, Keyed.del, ih]

theorem getT_delT (k k' : Key) (l : List (Key × RxT)) :
    getT k (delT k' l) = if k' = k then none else getT k l := by
  rw [getT_eq, delT_eq, Keyed.get_del, getT_eq]

theorem getT_putT (k k' : Key) (x : RxT) (l : List (Key × RxT)) :
    getT k (putT k' x l) = if k' = k then some x else getT k l := by
  rw [putT, getT_eq, delT_eq, Keyed.get_cons_del, getT_eq]

theorem queued_addRx (k : Key) (s : Rx) (q : QItem) :
    queued k (addRx s q) = queued k s ++ (if q.src = some k then [q.data] else []) := by
  simp only [queued, addRx, List.filter_append, List.map_append]
  by_cases h : q.src = some k <;> simp [List.filter, fromKey, h]

def view (k : Key) (s : Rx) : Option RxT × List Bytes := (getT k s.prog, queued k s)

/-- The receiver's treatment of the `(is end, index, data)` segments of one transfer. -/
def mach : Keyed.Machine RxT (Bool × Nat × Bytes) Bytes where
  fresh _ := ⟨none, [], []⟩
  skip x m := x.got.contains m.2.1
  upd x m := updT x m.1 m.2.1 m.2.2
  complete := complete
  fin x := fullData x (x.gotEnd.getD 0)

theorem view_recvSeg_other {k k' : Key} (h : k' ≠ k) (s : Rx) (addr : String) (isEnd : Bool)
    (idx : Nat) (chunk : Bytes) : view k (recvSeg s k' addr isEnd idx chunk) = view k s := by
  have hs : ¬ (some k' = some k) := fun hh => h (Option.some.inj hh)
  simp only [recvSeg, view]
  split
  · rfl
  · split
    · simp only [queued_addRx, hs, if_false, List.append_nil]
      simp only [addRx, getT_delT, h, if_false, queued]
    · simp only [getT_putT, h, if_false, queued]

theorem view_recvSeg_self (k : Key) (s : Rx) (addr : String) (isEnd : Bool) (idx : Nat)
    (chunk : Bytes) :
    view k (recvSeg s k addr isEnd idx chunk) = mach.step (view k s) (isEnd, idx, chunk) := by
  simp only [recvSeg, Keyed.Machine.step, view, mach]
  by_cases hd : ((getT k s.prog).getD ⟨none, [], []⟩).got.contains idx = true
  · simp only [hd, if_true]
  · by_cases hc : complete (updT ((getT k s.prog).getD ⟨none, [], []⟩) isEnd idx chunk) = true
    · simp only [Bool.not_eq_true _ ▸ hd, hc, Bool.false_eq_true, if_false, if_true, queued_addRx]
      simp only [addRx, getT_delT, if_true, queued]
    · simp only [Bool.not_eq_true _ ▸ hd, Bool.not_eq_true _ ▸ hc, Bool.false_eq_true, if_false,
        getT_putT, if_true, queued]

def mine (k : Key) : Ev → Option (Bool × Nat × Bytes)
  | .seg k' _ isEnd idx chunk => if k' = k then some (isEnd, idx, chunk) else none
  | .bundle _ _ => none

theorem kev_eq (k : Key) (evs : List Ev) : kev k evs = evs.filterMap (mine k) := by
  induction evs with
  | nil => rfl
  | cons e evs ih =>
    cases e with
    | bundle a d => simpa only [kev, List.filterMap_cons, mine] using ih
    | seg k' addr isEnd idx chunk =>
      by_cases h : k' = k <;> simp only [kev, List.filterMap_cons, mine, h, if_true, if_false, ih]

theorem view_step_other (k : Key) (s : Rx) (e : Ev) (h : mine k e = none) :
    view k (step s e) = view k s := by
  cases e with
  | bundle a d =>
    simp only [step, view, queued_addRx, reduceCtorEq, if_false, List.append_nil]
    rfl
  | seg k' addr isEnd idx chunk =>
    have hk : k' ≠ k := by intro hk; simp only [mine, hk, if_true] at h; cases h
    exact view_recvSeg_other hk s addr isEnd idx chunk

theorem view_step_mine (k : Key) (s : Rx) (e : Ev) (m : Bool × Nat × Bytes)
    (h : mine k e = some m) : view k (step s e) = mach.step (view k s) m := by
  cases e with
  | bundle a d => cases h
  | seg k' addr isEnd idx chunk =>
    simp only [mine] at h
    split at h
    · rename_i hk
      cases h; subst hk
      exact view_recvSeg_self k' s addr isEnd idx chunk
    · cases h

theorem kev_append (k : Key) (a b : List Ev) : kev k (a ++ b) = kev k a ++ kev k b := by
  simp only [kev_eq, List.filterMap_append]

theorem run_cons (s : Rx) (e : Ev) (rest : List Ev) : run s (e :: rest) = run (step s e) rest := rfl

theorem view_run {k : Key} {s : Rx} (h0 : getT k s.prog = none) (evs : List Ev) :
    view k (run s evs) = (kev k evs).foldl mach.step (none, queued k s) := by
  rw [kev_eq, ← h0]
  exact Keyed.foldl_view step (view k) (mine k) _ (view_step_other k) (view_step_mine k) evs s

/-- A `(is end, index, data)` message that really is segment `index` of `cs`. -/
def GenuineS (cs : List Bytes) (t : Bool × Nat × Bytes) : Prop :=
  t.2.1 < cs.length ∧ cs[t.2.1]? = some t.2.2 ∧ (t.1 = true ↔ t.2.1 + 1 = cs.length)

def InvT (cs : List Bytes) (x : RxT) : Prop :=
  (∀ i ∈ x.got, i < cs.length ∧ lookupD i x.data = cs.getD i []) ∧
  (x.gotEnd = none ∨ x.gotEnd = some (cs.length - 1)) ∧
  ((cs.length - 1) ∈ x.got → x.gotEnd = some (cs.length - 1))

theorem inv_updT (cs : List Bytes) (x : RxT) (t : Bool × Nat × Bytes) (hx : InvT cs x)
    (hg : GenuineS cs t) (hnew : t.2.1 ∉ x.got) : InvT cs (updT x t.1 t.2.1 t.2.2) := by
  obtain ⟨ha, hb, hd⟩ := hx
  obtain ⟨g1, g2, g3⟩ := hg
  refine ⟨?_, ?_⟩
  · intro i hi
    simp only [updT] at hi ⊢
    rcases List.mem_cons.mp hi with rfl | hi
    · refine ⟨g1, ?_⟩
      simp only [lookupD, if_true]
      simp [List.getD, g2]
    · refine ⟨(ha i hi).1, ?_⟩
      have hne : t.2.1 ≠ i := by intro h; rw [h] at hnew; exact hnew hi
      simp only [lookupD, hne, if_false]
      exact (ha i hi).2
  · -- the end marker is set by the last segment, and by that one only
    simp only [updT]
    cases hte : t.1 with
    | true =>
      have he : some t.2.1 = some (cs.length - 1) := by have := g3.mp hte; congr 1; omega
      simp only [if_true]
      exact ⟨Or.inr he, fun _ => he⟩
    | false =>
      simp only [Bool.false_eq_true, if_false]
      refine ⟨hb, fun hm => ?_⟩
      rcases List.mem_cons.mp hm with h | h
      · exact absurd (g3.mpr (by omega)) (by rw [hte]; exact Bool.false_ne_true)
      · exact hd h

theorem range_flatMap_getD (cs : List Bytes) :
    (List.range cs.length).flatMap (fun i => cs.getD i []) = cs.flatten := by
  induction cs with
  | nil => rfl
  | cons c cs ih =>
    rw [List.length_cons, List.range_succ_eq_map, List.flatMap_cons, List.flatMap_map]
    simp only [List.getD_cons_zero, List.flatten_cons]
    congr 1

theorem complete_iff (x : RxT) :
    complete x = true ↔ ∃ e, x.gotEnd = some e ∧ (∀ i, i ≤ e → i ∈ x.got) ∧ (∀ i ∈ x.got, i ≤ e) := by
  unfold complete
  cases x.gotEnd with
  | none => simp
  | some e =>
    simp only [Bool.and_eq_true, List.all_eq_true, List.mem_range,
      List.contains_iff_mem, decide_eq_true_eq, Option.some.injEq, exists_eq_left']
    constructor
    · rintro ⟨h2, h3⟩; exact ⟨fun i hi => h2 i (by omega), h3⟩
    · rintro ⟨h2, h3⟩; exact ⟨fun i hi => h2 i (by omega), h3⟩

theorem complete_all (cs : List Bytes) (x : RxT) (hx : InvT cs x) (hc : complete x = true) :
    x.gotEnd = some (cs.length - 1) ∧ ∀ i, i ≤ cs.length - 1 → i ∈ x.got := by
  obtain ⟨e, he, hall, _⟩ := (complete_iff x).mp hc
  have hee : e = cs.length - 1 := by
    rcases hx.2.1 with h | h
    · rw [h] at he; cases he
    · rw [h] at he; exact (Option.some.inj he).symm
  exact ⟨hee ▸ he, hee ▸ hall⟩

theorem complete_data (cs : List Bytes) (x : RxT) (hx : InvT cs x) (hc : complete x = true) :
    fullData x (x.gotEnd.getD 0) = cs.flatten := by
  obtain ⟨he, hall⟩ := complete_all cs x hx hc
  have hn : 0 < cs.length := by have := (hx.1 _ (hall _ (Nat.le_refl _))).1; omega
  rw [he]; simp only [Option.getD_some, fullData]
  have : cs.length - 1 + 1 = cs.length := by omega
  rw [this, ← range_flatMap_getD cs, List.flatMap_def, List.flatMap_def]
  refine congrArg List.flatten (List.map_congr_left fun i hi => ?_)
  rw [List.mem_range] at hi
  exact (hx.1 i (hall i (by omega))).2

theorem not_complete_of_missing (cs : List Bytes) (x : RxT) (hx : InvT cs x) (m : Nat)
    (hm : m < cs.length) (hd : m ∉ x.got) : complete x = false := by
  cases hc : complete x with
  | false => rfl
  | true => exact absurd ((complete_all cs x hx hc).2 m (by omega)) hd

/-- The machine reassembles `cs.flatten` from the segments `cs`: the marks are the indices got, a
    complete entry has every index below `cs.length`. -/
def spec (cs : List Bytes) (hn : 1 ≤ cs.length) : Keyed.Spec mach Nat where
  ok := InvT cs
  good := GenuineS cs
  marks x := x.got
  mark m := m.2.1
  apart a b := a ≠ b
  wanted w := w < cs.length
  enough l := ∀ i, i < cs.length → i ∈ l
  res := cs.flatten
  fresh_ok _ _ := ⟨fun _ hi => (by cases hi), Or.inl rfl, fun hm => (by cases hm)⟩
  fresh_marks _ := rfl
  upd_ok x m hx hm hs := inv_updT cs x m hx hm (fun h => by
    rw [show mach.skip x m = x.got.contains m.2.1 from rfl, List.contains_iff_mem.mpr h] at hs
    cases hs)
  upd_marks _ _ := rfl
  skip_mark _ _ _ _ hs := List.contains_iff_mem.mp hs
  not_apart_self _ _ h := h rfl
  fin_res x hx hc := complete_data cs x hx hc
  missing x w hx hw hd := not_complete_of_missing cs x hx w hw (fun h => hd w h rfl)
  enough_mono _ _ h hsub i hi := hsub i (h i hi)
  complete_of_enough x hx hen :=
    (complete_iff x).mpr ⟨cs.length - 1, hx.2.2 (hen _ (by omega)), fun j _ => hen j (by omega),
      fun j hj => by have := (hx.1 j hj).1; omega⟩

end Btpu
end DtnVerif
