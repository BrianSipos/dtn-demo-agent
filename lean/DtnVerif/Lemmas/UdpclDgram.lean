/- `_recv_datagram` on TRANSFER messages and on padding; the range codec. -/
import DtnVerif.Model.Udpcl
import DtnVerif.Lemmas.Cbor
namespace DtnVerif
namespace Udpcl
open Cbor

theorem parseTransferVal_enc (id total off : Nat) (chunk r : Bytes)
    (h1 : id < 2 ^ 64) (h2 : total < 2 ^ 64) (h3 : off < 2 ^ 64) (h4 : chunk.length < 2 ^ 64) :
    parseTransferVal (encArrHead 4 ++ (encUint id ++ (encUint total ++ (encUint off ++
      (encBstr chunk ++ r))))) = some ((id, total, off, chunk), r) := by
  unfold parseTransferVal
  rw [decArrHead_enc 4 _ (by decide)]
  simp only [ne_eq, not_true_eq_false, if_false]
  rw [decUint_enc id _ h1]
  simp only []
  rw [decUint_enc total _ h2]
  simp only []
  rw [decUint_enc off _ h3]
  simp only []
  rw [decBstr_enc chunk _ h4]

theorem parseExtMap_enc (id total off : Nat) (chunk r : Bytes)
    (h1 : id < 2 ^ 64) (h2 : total < 2 ^ 64) (h3 : off < 2 ^ 64) (h4 : chunk.length < 2 ^ 64) :
    parseExtMap (encTransfer id total off chunk ++ r) =
      some (⟨some (id, total, off, chunk), []⟩, r) := by
  unfold parseExtMap encTransfer
  simp only [List.append_assoc]
  rw [decMapHead_enc 1 _ (by decide)]
  simp only [parsePairs]
  rw [decUint_enc 2 _ (by decide)]
  simp only [if_true]
  rw [parseTransferVal_enc id total off chunk r h1 h2 h3 h4]

theorem encTransfer_head (id total off : Nat) (chunk : Bytes) :
    ∃ tl, encTransfer id total off chunk = 0xa1 :: tl := by
  refine ⟨encUint 2 ++ (encArrHead 4 ++ (encUint id ++ (encUint total ++
    (encUint off ++ encBstr chunk)))), ?_⟩
  simp [encTransfer, encMapHead, head]

theorem recvLoop_enc (f : Nat) (addr : String) (port : Nat) (s : Rx) (id total off : Nat)
    (chunk r : Bytes)
    (h1 : id < 2 ^ 64) (h2 : total < 2 ^ 64) (h3 : off < 2 ^ 64) (h4 : chunk.length < 2 ^ 64) :
    recvLoop (f + 1) false addr port s (encTransfer id total off chunk ++ r) =
      match recvTransfer s ⟨addr, port, id⟩ total off chunk with
      | .ok s' => recvLoop f false addr port s' r
      | .error e => (s, .error e) := by
  have hp := parseExtMap_enc id total off chunk r h1 h2 h3 h4
  obtain ⟨tl, htl⟩ := encTransfer_head id total off chunk
  rw [htl] at hp ⊢
  simp only [List.cons_append] at hp ⊢
  conv => lhs; unfold recvLoop
  have e0 : ((0xa1 : UInt8) = 0x00) = False := by decide
  have e1 : (20 ≤ (0xa1 : UInt8).toNat ∧ (0xa1 : UInt8).toNat ≤ 23) = False := by decide
  have e2 : ((0xa1 : UInt8) = 0x06) = False := by decide
  have e3 : ((0xa1 : UInt8).toNat / 32 = 4) = False := by decide
  have e4 : ((0xa1 : UInt8).toNat / 32 = 5) = True := by decide
  simp only [e0, e1, e2, e3, e4, if_false, if_true, hp]
  unfold recvExtMap
  simp only [List.any_nil, Bool.false_eq_true, if_false]
  cases recvTransfer s ⟨addr, port, id⟩ total off chunk <;> rfl

theorem recvLoop_nil (f : Nat) (rej : Bool) (addr : String) (port : Nat) (s : Rx) :
    recvLoop f rej addr port s [] = (s, .done) := by
  cases f <;> rfl

theorem recvLoop_pad (f : Nat) (rej : Bool) (addr : String) (port : Nat) (s : Rx) (r : Bytes) :
    recvLoop f rej addr port s (0x00 :: r) = (s, .done) := by
  cases f with
  | zero => rfl
  | succ f => simp [recvLoop]

theorem recvDatagram_enc (s : Rx) (addr : String) (port id total off : Nat) (chunk : Bytes)
    (h1 : id < 2 ^ 64) (h2 : total < 2 ^ 64) (h3 : off < 2 ^ 64) (h4 : chunk.length < 2 ^ 64) :
    (recvDatagram false s addr port (encTransfer id total off chunk)).1 =
      step s (.xfer ⟨addr, port, id⟩ total off chunk) := by
  have h := recvLoop_enc (encTransfer id total off chunk).length addr port s id total off chunk []
    h1 h2 h3 h4
  rw [List.append_nil] at h
  rw [recvDatagram, h, step]
  cases recvTransfer s ⟨addr, port, id⟩ total off chunk with
  | ok s' => exact congrArg Prod.fst (recvLoop_nil _ _ _ _ s')
  | error e => rfl

/-- Atomic intervals of a normalised `portion` interval: ascending, non-empty, with gaps. -/
def Norm : Bool → Nat → List (Nat × Nat) → Prop
  | _, _, [] => True
  | strict, seen, (lo, hi) :: rest =>
    (if strict then seen < lo else seen ≤ lo) ∧ lo < hi ∧ Norm true hi rest

theorem rangeDecode_encode_from : ∀ (s : List (Nat × Nat)) (strict : Bool) (seen : Nat)
    (acc : List (Nat × Nat)), Norm strict seen s →
    (strict = true → ∃ l t, acc = (l, seen) :: t) → (strict = false → acc = []) →
    rangeDecodeFrom seen acc (rangeEncodeFrom seen s) = s.reverse ++ acc := by
  intro s
  induction s with
  | nil => intro strict seen acc _ _ _; simp [rangeEncodeFrom, rangeDecodeFrom]
  | cons p rest ih =>
    intro strict seen acc hn hs hf
    obtain ⟨lo, hi⟩ := p
    obtain ⟨h1, h2, h3⟩ := hn
    have hle : seen ≤ lo := by
      cases strict <;> simp at h1 <;> omega
    simp only [rangeEncodeFrom, rangeDecodeFrom]
    have e1 : seen + (lo - seen) = lo := by omega
    have e2 : lo + (hi - lo) = hi := by omega
    rw [e1, e2]
    have hpush : pushRange acc lo hi = (lo, hi) :: acc := by
      unfold pushRange
      have : ¬ hi ≤ lo := by omega
      simp only [this, if_false]
      cases strict with
      | false => rw [hf rfl]
      | true =>
        obtain ⟨l, t, rfl⟩ := hs rfl
        simp at h1
        have : ¬ lo ≤ seen := by omega
        simp only [this, if_false]
    rw [hpush, ih true hi ((lo, hi) :: acc) h3 (fun _ => ⟨lo, acc, rfl⟩) (fun h => by cases h)]
    simp

end Udpcl
end DtnVerif
