/-
  More facts about RFC 9174-legal message sequences (`legalRun`): where SESS_TERM can stand, what
  the last segment says about the open transfer.
-/
import DtnVerif.Lemmas.TcpclOwed
import DtnVerif.Lemmas.TcpclTx
namespace DtnVerif
namespace Tcpcl

def Msg.isTerm' : Msg → Bool
  | .sessTerm .. => true
  | _ => false

def Msg.isSeg : Msg → Bool
  | .xferSegment .. => true
  | _ => false

def Msg.isHello : Msg → Bool
  | .contact .. => true
  | .sessInit .. => true
  | _ => false

theorem legalStep_fields {s s1 : LState} {m : Msg} (h : legalStep s m = some s1) :
    (m.isTerm' = false → s1.termSeen = s.termSeen)
    ∧ (m.isHello = false → s.phase = 2 ∧ s1.phase = 2)
    ∧ (m.isSeg = false → s1.cur = s.cur)
    ∧ (m.isTerm' = true → s1.termSeen = true) := by
  have hi := legalStep_inv h
  cases m with
  | contact f => obtain ⟨-, rfl⟩ := hi; simp [Msg.isTerm', Msg.isHello, Msg.isSeg]
  | sessInit a b c d x => obtain ⟨-, rfl⟩ := hi; simp [Msg.isTerm', Msg.isHello, Msg.isSeg]
  | sessTerm f r => obtain ⟨hp, -, rfl⟩ := hi; simp [Msg.isTerm', Msg.isHello, Msg.isSeg, hp]
  | keepalive | msgReject _ _ | xferAck _ _ _ | xferRefuse _ _ =>
    obtain ⟨hp, rfl⟩ := hi; simp [Msg.isTerm', Msg.isHello, Msg.isSeg, hp]
  | xferSegment fl tid ext data =>
    obtain ⟨hp, hp1, ht, -⟩ := hi; simp [Msg.isTerm', Msg.isHello, Msg.isSeg, hp, hp1, ht]

theorem termSeen_of_run (ms : List Msg) : ∀ (s s' : LState), legalRun s ms = some s' → s'.termSeen = true →
    s.termSeen = true ∨ ∃ m ∈ ms, m.isTerm' = true := by
  induction ms with
  | nil => intro s s' h ht; simp only [legalRun, Option.some.injEq] at h; subst h; exact Or.inl ht
  | cons m ms ih =>
    intro s s' h ht
    obtain ⟨s1, h1, h2⟩ := legalRun_cons_some h
    rcases ih s1 s' h2 ht with h3 | ⟨x, hx, hxt⟩
    · cases hm : m.isTerm'
      · left; rw [← (legalStep_fields h1).1 hm]; exact h3
      · right; exact ⟨m, List.mem_cons_self, hm⟩
    · right; exact ⟨x, List.mem_cons_of_mem _ hx, hxt⟩

theorem termSeen_run_of_mem (ms : List Msg) : ∀ (s s' : LState), legalRun s ms = some s' →
    (s.termSeen = true ∨ ∃ m ∈ ms, m.isTerm' = true) → s'.termSeen = true := by
  induction ms with
  | nil =>
    intro s s' h ht
    simp only [legalRun, Option.some.injEq] at h; subst h
    rcases ht with h | ⟨m, hm, _⟩
    · exact h
    · cases hm
  | cons m ms ih =>
    intro s s' h ht
    obtain ⟨s1, h1, h2⟩ := legalRun_cons_some h
    apply ih s1 s' h2
    cases hm : m.isTerm'
    · rcases ht with h | ⟨x, hx, hxt⟩
      · left; rw [(legalStep_fields h1).1 hm]; exact h
      · rcases List.mem_cons.mp hx with rfl | hx
        · rw [hm] at hxt; cases hxt
        · right; exact ⟨x, hx, hxt⟩
    · left; exact (legalStep_fields h1).2.2.2 hm

theorem phase2_run (ms : List Msg) : ∀ (s s' : LState), legalRun s ms = some s' → s.phase = 2 → s'.phase = 2 := by
  induction ms with
  | nil => intro s s' h hp; simp only [legalRun, Option.some.injEq] at h; subst h; exact hp
  | cons m ms ih =>
    intro s s' h hp
    obtain ⟨s1, h1, h2⟩ := legalRun_cons_some h
    apply ih s1 s' h2
    cases hm : m.isHello
    · exact ((legalStep_fields h1).2.1 hm).2
    · -- contact / SESS_INIT are not legal in phase 2
      exfalso
      have hi := legalStep_inv h1
      cases m with
      | contact f => rw [hp] at hi; cases hi.1
      | sessInit a b c d x => rw [hp] at hi; cases hi.1
      | _ => cases hm

theorem phase2_of_term (ms : List Msg) : ∀ (s s' : LState), legalRun s ms = some s' →
    (∃ m ∈ ms, m.isTerm' = true) → s'.phase = 2 := by
  induction ms with
  | nil => intro s s' _ ⟨m, hm, _⟩; cases hm
  | cons m ms ih =>
    intro s s' h ⟨x, hx, hxt⟩
    obtain ⟨s1, h1, h2⟩ := legalRun_cons_some h
    rcases List.mem_cons.mp hx with rfl | hx
    · have : x.isHello = false := by cases x <;> first | rfl | cases hxt
      exact phase2_run ms s1 s' h2 ((legalStep_fields h1).2.1 this).2
    · exact ih s1 s' h2 ⟨x, hx, hxt⟩

theorem last_not_init (ms : List Msg) (L : LState) (h : legalRun {} ms = some L)
    (ka sm xm : Nat) (node ext : Bytes) (hl : ms.getLast? = some (.sessInit ka sm xm node ext)) :
    ∀ m ∈ ms, m.isTerm' = false := by
  obtain ⟨pre, rfl⟩ := List.getLast?_eq_some_iff.mp hl
  rw [legalRun_append] at h
  cases hp : legalRun {} pre with
  | none => rw [hp] at h; cases h
  | some L1 =>
    rw [hp] at h
    obtain ⟨_, hs, -⟩ := legalRun_cons_some (show legalRun L1 [.sessInit ka sm xm node ext] = some L from h)
    obtain ⟨hph, -⟩ := legalStep_inv hs
    intro m hm
    rcases List.mem_append.mp hm with hm | hm
    · cases hmt : m.isTerm'
      · rfl
      · have := phase2_of_term pre {} L1 hp ⟨m, hm, hmt⟩
        rw [hph] at this; cases this
    · simp only [List.mem_singleton] at hm; subst hm; rfl

theorem cur_of_last_seg (ms : List Msg) : ∀ (s s' : LState), legalRun s ms = some s' →
    match (segInfo ms).getLast? with
    | some (_, false) => s'.cur.isSome = true
    | some (_, true) => s'.cur = none
    | none => s'.cur = s.cur := by
  induction ms with
  | nil => intro s s' h; simp only [legalRun, Option.some.injEq] at h; subst h; simp [segInfo]
  | cons m ms ih =>
    intro s s' h
    obtain ⟨s1, h1, h2⟩ := legalRun_cons_some h
    have ih' := ih s1 s' h2
    rw [segInfo_cons]
    cases hrest : segInfo ms with
    | cons y ys =>
      -- a later segment decides
      rw [hrest] at ih'
      rw [List.getLast?_append]
      cases hgl : (y :: ys).getLast? with
      | none => simp at hgl
      | some p =>
        rw [hgl] at ih'
        obtain ⟨t, b⟩ := p
        cases b <;> exact ih'
    | nil =>
      rw [hrest] at ih'
      rw [List.append_nil, (ih' : s'.cur = s1.cur)]
      rcases m.seg_or with ⟨fl, tid, ext, data, rfl⟩ | hm
      · have hcur := legalStep_seg_cur h1
        simp only [segInfoOf, List.getLast?_singleton]
        cases he : hasEnd fl <;> simp only [he, Bool.false_eq_true, if_false, if_true] at hcur ⊢
        · rw [← Option.isSome_map, hcur]; rfl
        · exact Option.map_eq_none_iff.mp hcur
      · rw [hm]; exact (legalStep_nonseg s s1 m hm h1).1

end Tcpcl
end DtnVerif
