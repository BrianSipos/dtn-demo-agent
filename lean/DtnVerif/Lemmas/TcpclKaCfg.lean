/-
  The negotiated keepalive interval is positive only if the configured one is: `kaTime` is only ever
  set by `merge_session_params`, to the minimum of the configured and the announced value.
-/
import DtnVerif.Lemmas.TcpclCfg
namespace DtnVerif
namespace Tcpcl

def KC (e : Ep) : Prop := 0 < e.kaTime → 0 < e.cfg.keepalive

theorem kc_tr {k : Kind} {a b : Ep} (h : Tr k a b) (hi : KC a) : KC b := by
  unfold KC at *
  rcases negotiated_tr h with ⟨h1, h2, _⟩ | ⟨p, _, h1, h2, _⟩
  · rw [h1, h2]; exact hi
  · rw [h1, h2]; omega

theorem kc_step (e : Ep) (ev : Ev) (hi : KC e) : KC (step e ev).1 :=
  step_inv (fun _ _ _ => kc_tr) e ev hi

theorem kc_init (cfg : Cfg) : KC { cfg := cfg } := by
  intro h; cases h

end Tcpcl
end DtnVerif
