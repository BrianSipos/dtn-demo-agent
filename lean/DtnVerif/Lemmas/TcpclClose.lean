/-
  No stuck termination, endpoint side.  `Done e` is the condition under which `_check_sess_term`
  closes the connection (terminating, the peer's SESS_TERM received, session idle).  At every state
  reached by whole events, an open endpoint for which `Done` holds still has a wake-up pending — an
  idle source for `_process_queue` or a TX source, both of which end in `_check_sess_term` — unless
  the last message it processed was one of the few after which the code does not re-check
  (`Msg.isTrail`: SESS_INIT, KEEPALIVE, MSG_REJECT, an intermediate XFER_ACK).
-/
import DtnVerif.Lemmas.TcpclTxSrc
import DtnVerif.Lemmas.TcpclRx
import DtnVerif.Lemmas.TcpclRxMore
import DtnVerif.Lemmas.TcpclWake
import DtnVerif.Lemmas.TcpclFeed
namespace DtnVerif
namespace Tcpcl

/-- messages after whose handling `_check_sess_term` is not called -/
def Msg.isTrail : Msg → Bool
  | .sessInit .. => true
  | .keepalive => true
  | .msgReject .. => true
  | .xferAck f _ _ => !hasEnd f
  | _ => false

def Trail (e : Ep) : Prop := ∃ m, e.processed.getLast? = some m ∧ m.isTrail = true

/-- the closing condition of `_check_sess_term` -/
def Done (e : Ep) : Bool := e.inTerm && e.gotTerm && isSessIdle e

def CL (e : Ep) : Prop := e.closed = false → Done e = true → (0 < e.pqSources ∨ 0 < e.txSrc ∨ Trail e)

theorem cl_closed {e : Ep} (h : e.closed = true) : CL e := by intro hc; rw [h] at hc; cases hc
theorem cl_notDone {e : Ep} (h : Done e = false) : CL e := by intro _ hd; rw [h] at hd; cases hd
theorem cl_pq {e : Ep} (h : 0 < e.pqSources) : CL e := fun _ _ => Or.inl h
theorem cl_src {e : Ep} (h : 0 < e.txSrc) : CL e := fun _ _ => Or.inr (Or.inl h)
theorem cl_trail {e : Ep} (h : Trail e) : CL e := fun _ _ => Or.inr (Or.inr h)

theorem done_false_of_txBuf {e : Ep} (h : e.txBuf ≠ []) : Done e = false := by
  unfold Done isSessIdle
  have : e.txBuf.isEmpty = false := by cases hb : e.txBuf with | nil => exact absurd hb h | cons _ _ => rfl
  simp [this]
theorem done_false_of_txTmp {e : Ep} (h : e.txTmp.isSome = true) : Done e = false := by
  unfold Done isSessIdle
  cases ht : e.txTmp with
  | none => rw [ht] at h; cases h
  | some p => simp
theorem done_false_of_pendStart {e : Ep} (h : e.txPendStart ≠ []) : Done e = false := by
  unfold Done isSessIdle
  have : e.txPendStart.isEmpty = false := by cases hb : e.txPendStart with | nil => exact absurd hb h | cons _ _ => rfl
  simp [this]
theorem done_false_of_rxBuf {e : Ep} (h : e.rx.buf ≠ []) : Done e = false := by
  unfold Done isSessIdle
  have : e.rx.buf.isEmpty = false := by cases hb : e.rx.buf with | nil => exact absurd hb h | cons _ _ => rfl
  simp [this]
theorem done_false_of_notTerm {e : Ep} (h : e.inTerm = false) : Done e = false := by
  unfold Done; simp [h]

theorem cl_txBuf {e : Ep} (h : e.txBuf ≠ []) : CL e := cl_notDone (done_false_of_txBuf h)

def Ep.clv (e : Ep) := (e.closed, Done e, e.pqSources, e.txSrc, e.processed)

theorem cl_of_clv {e e' : Ep} (h : e'.clv = e.clv) (hi : CL e) : CL e' := by
  simp only [Ep.clv, Prod.mk.injEq] at h
  obtain ⟨h1, h2, h3, h4, h5⟩ := h
  unfold CL Trail at *
  rw [h1, h2, h3, h4, h5]; exact hi

/-- where `_check_sess_term` leaves an endpoint: closed, or the closing condition does not hold -/
def Checked (e : Ep) : Prop := e.closed = true ∨ Done e = false

theorem Checked.cl {e : Ep} (h : Checked e) : CL e := h.elim cl_closed cl_notDone

theorem Checked.of_eq {x y : Ep} (h : Checked x) (h1 : y.closed = x.closed) (h2 : Done y = Done x) : Checked y :=
  h.imp h1.trans h2.trans

theorem checked (x : Ep) : (checkSessTerm x).1.closed = true ∨ Done (checkSessTerm x).1 = false := by
  unfold checkSessTerm
  split
  · exact .inl (closed_doClose x)
  · rename_i h
    right
    have : Done x = (x.inTerm && x.gotTerm && isSessIdle x) := rfl
    rw [this]; simpa using h

theorem checked_txBuf {e : Ep} (h : e.txBuf ≠ []) : Checked e := .inr (done_false_of_txBuf h)

theorem cl_sendSessTerm (e : Ep) (r : Nat) (b : Bool) (hi : CL e) : CL (sendSessTerm e r b).1 := by
  unfold sendSessTerm
  split
  · exact hi
  · split
    · exact hi
    · apply cl_txBuf
      dsimp only [flushPendStart]
      exact txBuf_sendMessage_ne _ _

theorem checked_sendSegment (e : Ep) (it : TxItem) (sent : Nat) : Checked (sendSegment e it sent).1 := by
  unfold sendSegment
  dsimp only
  split
  · exact .inr (done_false_of_txTmp rfl)
  · split
    · apply checked_txBuf
      rw [txBuf_pqTrigger]
      dsimp only
      exact txBuf_sendMessage_ne _ _
    · apply checked_txBuf
      dsimp only
      exact txBuf_sendMessage_ne _ _

theorem checked_segAccept (e : Ep) (flags tid : Nat) (cur data : Bytes) (o1 : List Out) :
    Checked (segAccept e flags tid cur data o1).1 := by
  unfold segAccept
  dsimp only
  split
  · exact checked _
  · exact checked_txBuf (txBuf_sendMessage_ne _ _)

theorem cl_sendReject (e : Ep) (r : Nat) (m : Msg) : CL (sendReject e r m) := cl_txBuf (txBuf_sendMessage_ne _ _)

theorem cl_onContact (e : Ep) : CL (onContact e).1 := by
  apply cl_txBuf
  unfold onContact
  cases hp : e.cfg.passive
  · exact txBuf_sendInit_ne _
  · simp only [if_true, Bool.not_true, Bool.false_eq_true, if_false]
    rw [txBuf_setState]
    exact txBuf_sendContact_ne e

theorem cl_handleMsg_last (e : Ep) (m : Msg) : CL (handleMsg e m).1 := by
  have htrail : m.isTrail = true → Trail (handleMsg e m).1 := fun h =>
    ⟨m, by rw [processed_handleMsg]; simp, h⟩
  revert htrail
  apply handleMsg_cases e (P := fun m r => (m.isTrail = true → Trail r.1) → CL r.1)
  case reject => intros; exact cl_sendReject _ _ _
  case keepalive => exact fun h => cl_trail (h rfl)
  case msgReject => exact fun _ _ h => cl_trail (h rfl)
  case sessInit => exact fun _ _ _ _ _ h => cl_trail (h rfl)
  case contact => intros; exact cl_onContact _
  case sessTerm | ackEnd | refuse => intros; exact Checked.cl (checked _)
  case segStart | segNext => intros; exact (checked_segAccept _ _ _ _ _ _).cl
  case ackMid => intro f t l _ _ he h; exact cl_trail (h (by simp [Msg.isTrail, he]))

theorem cl_handleMsgs (ms : List Msg) : ∀ (e : Ep), ms ≠ [] → e.rx.dead = false →
    CL { (handleMsgs e ms).1 with rxMore := false } := by
  induction ms with
  | nil => intro e h; exact absurd rfl h
  | cons m ms ih =>
    intro e _ hd
    unfold handleMsgs
    split
    · rename_i hc; exact cl_closed hc
    · simp only []
      cases ms with
      | nil =>
        simp only [handleMsgs, List.isEmpty_nil, Bool.not_true, Bool.false_or, hd]
        have h1 := cl_handleMsg_last { e with rxMore := false } m
        have h2 : (handleMsg { e with rxMore := false } m).1.rxMore = false := rm_handleMsg _ m
        refine cl_of_clv ?_ h1
        simp only [Ep.clv, Done, isSessIdle, h2]
      | cons m' ms' =>
        refine ih _ (by simp) ?_
        rw [rx_handleMsg]; exact hd

theorem cl_recvRaw (e : Ep) (c : Bytes) (hc : c ≠ []) : CL (recvRaw e c).1 := by
  unfold recvRaw
  simp only []
  split
  · exact cl_closed (closed_doClose _)
  · rename_i hd
    have hd' : (feed e.rx c).1.dead = false := by simpa using hd
    cases hms : (feed e.rx c).2 with
    | nil =>
      simp only [handleMsgs]
      apply cl_notDone
      apply done_false_of_rxBuf
      show (feed e.rx c).1.buf ≠ []
      rw [feed_nil_buf e.rx c hms hd']
      intro h
      exact hc (List.append_eq_nil_iff.mp h).2
    | cons m ms =>
      exact cl_handleMsgs (m :: ms) (rxEntry e c) (by simp) hd'

theorem writeConn_checked (x : Ep) (n : Nat) (hcb : (writeConn x n true).1.connBuf = []) :
    Checked (writeConn x n true).1 := by
  unfold writeConn at hcb ⊢
  by_cases hne : x.connBuf.isEmpty = true
  · rw [if_pos hne]; simp only [if_true]; exact checked _
  · rw [if_neg hne] at hcb ⊢
    simp only [] at hcb ⊢
    by_cases hk : (min n (x.connBuf.take chunkSize).length == 0) = true
    · rw [if_pos hk] at hcb
      simp only [] at hcb
      rw [hcb] at hne; simp at hne
    · rw [if_neg hk] at hcb ⊢
      simp only [Bool.true_and] at hcb ⊢
      split
      · exact checked _
      · rename_i h2
        rw [if_neg h2] at hcb
        simp only [] at hcb
        rw [hcb] at h2; simp at h2

theorem pump_checked (e : Ep) (n : Nat) (hup : upEmpty e = true) (hcb : (pump e n).1.connBuf = []) :
    Checked (pump e n).1 := by
  unfold pump at hcb ⊢
  rw [hup] at hcb ⊢
  exact writeConn_checked _ _ hcb

theorem cl_pumpStep (e : Ep) (n : Nat) (hsrc : 0 < e.txSrc) :
    let r := pump { e with txIdle := false } n
    let cont := r.1.closed || !r.1.connBuf.isEmpty || !upEmpty e
    CL { r.1 with txWatch := r.1.txWatch && cont, txSrc := if cont then r.1.txSrc else r.1.txSrc - 1 } := by
  intro r cont
  cases hcont : cont
  · simp only [cont, Bool.or_eq_false_iff, Bool.not_eq_false', List.isEmpty_iff] at hcont
    exact Checked.cl (Checked.of_eq (pump_checked { e with txIdle := false } n hcont.2 hcont.1.2) rfl rfl)
  · -- the source stays installed
    rcases pump_closed_or_src { e with txIdle := false } n with h | h
    · exact cl_closed h
    · apply cl_src
      simp only [if_true]
      rw [h]; exact hsrc

theorem cl_procQueueStep (e : Ep) (hs : 0 < e.pqSources) :
    let r := processQueue { e with pqPend := false }
    CL { r.1 with pqSources := if r.2.2 then r.1.pqSources else r.1.pqSources - 1 } := by
  simp only []
  unfold processQueue
  split
  · -- a transfer is being segmented: the segment (or the failed attempt) keeps the session non-idle
    rename_i it sent _
    exact Checked.cl (Checked.of_eq (checked_sendSegment _ it sent) rfl rfl)
  · split
    · -- no session yet: the source stays
      apply cl_pq
      simp only [if_true]
      exact hs
    · split
      · -- terminating: unstarted transfers reported, then `_check_sess_term`
        exact Checked.cl (Checked.of_eq (checked _) rfl rfl)
      · rename_i hnt
        split
        · apply cl_notDone
          apply done_false_of_notTerm
          simpa using hnt
        · rename_i it rest _
          exact Checked.cl (Checked.of_eq (checked_sendSegment _ it 0) rfl rfl)

theorem cl_step (e : Ep) (ev : Ev) (hi : CL e) : (∀ c, ev = .rx c → c ≠ []) → CL (step e ev).1 := by
  apply step_cases e (P := fun ev r => (∀ c, ev = .rx c → c ≠ []) → CL r.1)
  case idle | query => intros; exact hi
  case advance | modulate => intros; exact cl_of_clv rfl hi
  case pop =>
    intro t _
    refine cl_of_clv ?_ hi
    unfold popRx; split <;> rfl
  case pqClosed => intro hc _; exact cl_closed hc
  case start =>
    intros
    cases hp : e.cfg.passive
    · simp only [Bool.not_false, if_true]
      apply cl_txBuf
      rw [txBuf_setState]
      exact txBuf_sendContact_ne _
    · simp only [Bool.not_true, Bool.false_eq_true, if_false]
      refine cl_of_clv ?_ hi
      unfold setState; split <;> rfl
  case send =>
    intros
    apply cl_notDone
    apply done_false_of_pendStart
    rw [pqTrigger_eq]; simp
  case terminate => intros; exact cl_sendSessTerm _ _ _ hi
  case close | rxEof | idleClose => intros; exact cl_closed (closed_doClose _)
  case procQueue => intro _ hs _; exact cl_procQueueStep e hs
  case pump => intro _ hsrc n _; exact cl_pumpStep e n hsrc
  case rx => intro _ c hne; exact cl_recvRaw e c (hne c rfl)
  case kaFire => intros; exact cl_txBuf (txBuf_sendMessage_ne _ _)
  case idleTerm => intros; exact cl_sendSessTerm _ _ _ (cl_of_clv (e := e) rfl hi)

theorem cl_init (cfg : Cfg) : CL { cfg := cfg } := cl_notDone rfl

end Tcpcl
end DtnVerif
