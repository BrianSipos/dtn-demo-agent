/-
  The receive map `_rx_map` (an insertion-ordered association list in the model) refines a partial
  map `Nat → Option Bytes`: completion of a transfer is `set`, `pop` is `remove`, the queue query lists
  the keys, each once.
-/
import DtnVerif.Lemmas.TcpclQueueRun
import DtnVerif.Lemmas.TcpclTr
namespace DtnVerif
namespace Tcpcl

def rxLookup (m : List (Nat × Bytes)) (t : Nat) : Option Bytes := (m.find? (·.1 == t)).map (·.2)

def absSet (A : Nat → Option Bytes) (p : Nat × Bytes) : Nat → Option Bytes :=
  fun t => if t = p.1 then some p.2 else A t
def absIns (A : Nat → Option Bytes) (new : List (Nat × Bytes)) : Nat → Option Bytes := new.foldl absSet A
def absDel (A : Nat → Option Bytes) (tid : Nat) : Nat → Option Bytes := fun t => if t = tid then none else A t

theorem rxLookup_isSome (m : List (Nat × Bytes)) (t : Nat) : (rxLookup m t).isSome ↔ t ∈ m.map (·.1) := by
  simp only [rxLookup, Option.isSome_map, List.find?_isSome, List.mem_map, beq_iff_eq]

/-- `rxMapSet` overwrites an entry under its own key -/
theorem rxUpd_fst (tid : Nat) (d : Bytes) (kv : Nat × Bytes) :
    (if (kv.1 == tid) = true then (tid, d) else kv).1 = kv.1 := by
  split
  · rename_i h; exact (beq_iff_eq.mp h).symm
  · rfl

theorem rxLookup_set (m : List (Nat × Bytes)) (tid : Nat) (d : Bytes) (t : Nat) :
    rxLookup (rxMapSet m tid d) t = absSet (rxLookup m) (tid, d) t := by
  unfold rxMapSet absSet rxLookup
  split
  · -- the update keeps every key, so it commutes with the search for `t`
    rename_i hany
    have hg : ((·.1 == t) ∘ fun kv : Nat × Bytes => if (kv.1 == tid) = true then (tid, d) else kv) = (·.1 == t) := by
      funext kv
      simp only [Function.comp, rxUpd_fst]
    rw [List.find?_map, hg]
    cases hf : m.find? (·.1 == t) with
    | none =>
      have ht : ¬t = tid := by
        rintro rfl
        obtain ⟨kv, hkv, hk⟩ := List.any_eq_true.mp hany
        exact absurd hk (by simpa using List.find?_eq_none.mp hf kv hkv)
      simp only [Option.map_none, if_neg ht]
    | some kv =>
      have hk : kv.1 = t := beq_iff_eq.mp (List.find?_some (p := fun x : Nat × Bytes => x.1 == t) hf)
      simp only [Option.map_some, ← hk]
      split
      · rename_i h; rw [if_pos (beq_iff_eq.mp h)]
      · rename_i h; rw [if_neg (by simpa using h)]
  · rename_i hany
    rw [List.find?_append]
    cases hf : m.find? (·.1 == t) with
    | none =>
      simp only [Option.none_or, List.find?_cons, List.find?_nil, Option.map_none]
      split
      · rename_i h; rw [if_pos (beq_iff_eq.mp h).symm]; rfl
      · rename_i h; rw [if_neg (fun e => by simp [e] at h)]; rfl
    | some kv =>
      have ht : ¬t = tid := by
        rintro rfl
        exact hany (List.any_eq_true.mpr ⟨kv, List.mem_of_find?_eq_some hf, List.find?_some (p := fun x : Nat × Bytes => x.1 == t) hf⟩)
      simp only [Option.some_or, Option.map_some, if_neg ht]

theorem rxLookup_ins (m new : List (Nat × Bytes)) (t : Nat) :
    rxLookup (rxIns m new) t = absIns (rxLookup m) new t := by
  induction new generalizing m with
  | nil => rfl
  | cons p new ih =>
    simp only [rxIns, absIns, List.foldl_cons] at ih ⊢
    rw [ih]
    have : rxLookup (rxMapSet m p.1 p.2) = absSet (rxLookup m) p := by
      funext t'
      exact rxLookup_set m p.1 p.2 t'
    rw [this]

theorem rxLookup_del (m : List (Nat × Bytes)) (tid t : Nat) :
    rxLookup (m.filter (·.1 != tid)) t = absDel (rxLookup m) tid t := by
  unfold absDel rxLookup
  rw [List.find?_filter]
  split
  · rename_i ht
    have : (fun a : Nat × Bytes => decide ((a.1 != tid) = true ∧ (a.1 == t) = true)) = fun _ => false := by
      funext a; simp [ht]
    rw [this, List.find?_eq_none.mpr (fun _ _ => Bool.false_ne_true)]; rfl
  · rename_i ht
    have : (fun a : Nat × Bytes => decide ((a.1 != tid) = true ∧ (a.1 == t) = true)) = (·.1 == t) := by
      funext a
      by_cases h : a.1 = t
      · simp [h, ht]
      · simp [h]
    rw [this]

theorem rxMapSet_keys_nodup (m : List (Nat × Bytes)) (tid : Nat) (d : Bytes) (h : (m.map (·.1)).Nodup) :
    ((rxMapSet m tid d).map (·.1)).Nodup := by
  unfold rxMapSet
  split
  · have : (m.map (fun kv => if (kv.1 == tid) = true then (tid, d) else kv)).map (·.1) = m.map (·.1) := by
      rw [List.map_map]
      exact List.map_congr_left fun kv _ => rxUpd_fst tid d kv
    rw [this]; exact h
  · rename_i hany
    simp only [List.map_append, List.map_cons, List.map_nil]
    refine List.nodup_append.mpr ⟨h, by simp, ?_⟩
    intro a ha b hb hab
    simp only [List.mem_cons, List.not_mem_nil, or_false] at hb
    subst hb; subst hab
    apply hany
    simp only [List.mem_map] at ha
    obtain ⟨kv, hkv, rfl⟩ := ha
    simp only [List.any_eq_true]
    exact ⟨kv, hkv, by simp⟩

theorem rxMapSet_mem (m : List (Nat × Bytes)) (tid : Nat) (d : Bytes) (p : Nat × Bytes)
    (h : p ∈ rxMapSet m tid d) : p = (tid, d) ∨ p ∈ m := by
  unfold rxMapSet at h
  split at h
  · simp only [List.mem_map] at h
    obtain ⟨kv, hkv, rfl⟩ := h
    split
    · exact Or.inl rfl
    · exact Or.inr hkv
  · simp only [List.mem_append, List.mem_cons, List.not_mem_nil, or_false] at h
    exact h.symm

structure RxQInv (e : Ep) : Prop where
  sound : ∀ p ∈ e.rxMap, p ∈ e.rxLog
  keys : (e.rxMap.map (·.1)).Nodup

def Ep.rqv (e : Ep) := (e.rxMap, e.rxLog)

theorem RxQInv.of_rqv {e e' : Ep} (hi : RxQInv e) (h : e'.rqv = e.rqv) : RxQInv e' := by
  simp only [Ep.rqv, Prod.mk.injEq] at h
  obtain ⟨h1, h2⟩ := h
  exact ⟨by rw [h1, h2]; exact hi.sound, by rw [h1]; exact hi.keys⟩

/-- an entry enters `_rx_map` in the transaction that logs its transfer, and only `pop` takes entries out -/
theorem rxq_tr {k : Kind} {a b : Ep} (h : Tr k a b) (hi : RxQInv a) : RxQInv b := by
  cases h with
  | pop _ t =>
    exact ⟨fun p hp => hi.sound p (List.mem_filter.mp hp).1, hi.keys.sublist (List.filter_sublist.map _)⟩
  | rxEnd _ f t x d cur _ _ _ =>
    refine ⟨fun p hp => ?_, rxMapSet_keys_nodup a.rxMap t (cur ++ d) hi.keys⟩
    rcases rxMapSet_mem a.rxMap t (cur ++ d) p hp with h | h
    · exact List.mem_append_right _ (h ▸ List.mem_singleton_self _)
    · exact List.mem_append_left _ (hi.sound p h)
  | _ =>
    -- the other transactions, emissions included, touch neither the map nor the log
    exact hi.of_rqv (by simp only [Ep.rqv, mergeSession, flushPendStart, Ep.sent, kaReset, idleReset, Ep.proc])

theorem RxQInv.step (e : Ep) (ev : Ev) (h : RxQInv e) : RxQInv (step e ev).1 :=
  step_inv (fun _ _ _ => rxq_tr) e ev h

theorem QInv.step (e : Ep) (ev : Ev) (hq : QInv e) : QInv (step e ev).1 := by
  obtain ⟨_, _, h, _⟩ := (TxHist.init hq).step_any ev
  exact h.inv

theorem QInv.init (cfg : Cfg) : QInv { cfg := cfg } :=
  ⟨by simp [Ep.inflight, tmpTids], by simp, by simp [Ep.inflight, tmpTids], by simp⟩

theorem RxQInv.init (cfg : Cfg) : RxQInv { cfg := cfg } := ⟨by simp, by simp⟩

end Tcpcl
end DtnVerif
