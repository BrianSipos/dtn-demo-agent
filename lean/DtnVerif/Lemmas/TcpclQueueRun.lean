/-
  History-level queue statements: over any event list, the send queue is exactly "ids handed out by
  `send` minus ids signalled finished", no id is signalled finished twice, and the receive queue
  follows the `recv_bundle_finished` signals and the `pop` calls.
-/
import DtnVerif.Lemmas.TcpclQueue
namespace DtnVerif
namespace Tcpcl

theorem QInv.idle_txMap_nil {e : Ep} (hq : QInv e) (hidle : isSessIdle e = true) : e.txMap = [] := by
  have : e.inflight = [] := by
    simp only [isSessIdle, Bool.and_eq_true, List.isEmpty_iff, Option.isNone_iff_eq_none] at hidle
    simp [Ep.inflight, hidle.1.2, hidle.2, hidle.1.1.2, tmpTids]
  apply List.eq_nil_iff_forall_not_mem.mpr
  intro t ht
  have hin := (hq.iff t).mp ht
  rw [this] at hin
  cases hin

def sendRets : List Ev → List (List Out) → List Out
  | ev :: evs, os :: oss => (if ev.isSend then os else []) ++ sendRets evs oss
  | _, _ => []

def retId (t : Nat) : Out := .ret (.str (natStr t))

/-- the transmit history between `e0` and `e`, `fin` = finished signals so far (id, length, text) -/
structure TxHist (e0 e : Ep) (fin : List (Nat × Nat × String)) : Prop where
  inv : QInv e
  fresh0 : ∀ t ∈ e0.txMap, t < e0.txNextId
  le : e0.txNextId ≤ e.txNextId
  nd : (fin.map (·.1)).Nodup
  was : ∀ t ∈ fin.map (·.1), t ∈ e0.txMap ∨ (e0.txNextId ≤ t ∧ t < e.txNextId)
  live : ∀ t, t ∈ e.txMap ↔ (t ∈ e0.txMap ∨ (e0.txNextId ≤ t ∧ t < e.txNextId)) ∧ t ∉ fin.map (·.1)

theorem TxHist.init {e0 : Ep} (hi : QInv e0) : TxHist e0 e0 [] :=
  ⟨hi, hi.fresh, Nat.le_refl _, by simp, by simp, by
    intro t; simp only [List.map_nil, List.not_mem_nil, not_false_eq_true, and_true]
    constructor
    · exact Or.inl
    · rintro (h | ⟨h1, h2⟩)
      · exact h
      · omega⟩

theorem TxHist.step_rel {e0 e : Ep} {fin} (h : TxHist e0 e fin) {r : Res} (hi : QInv r.1) (hr : TxRel e r) :
    ∃ f1, txFin r.2 = f1.map txSig ∧ TxHist e0 r.1 (fin ++ f1) := by
  obtain ⟨f1, a1, a2, a3, a4, a5⟩ := hr
  refine ⟨f1, a1, ⟨hi, h.fresh0, a5 ▸ h.le, ?_, ?_, ?_⟩⟩
  · simp only [List.map_append]
    refine List.nodup_append.mpr ⟨h.nd, a4, ?_⟩
    intro x hx y hy hxy
    subst hxy
    exact ((h.live x).mp (a3 x hy)).2 hx
  · intro t ht
    simp only [List.map_append, List.mem_append] at ht
    rw [a5]
    rcases ht with ht | ht
    · exact h.was t ht
    · exact ((h.live t).mp (a3 t ht)).1
  · intro t
    rw [a2, a5, List.mem_filter, h.live t]
    simp only [List.map_append, List.mem_append, not_or, Bool.not_eq_true', List.contains_eq_mem,
      decide_eq_false_iff_not, and_assoc]

theorem TxHist.step_send {e0 e : Ep} {fin} (h : TxHist e0 e fin) (d : Bytes) (hc : e.closed = false) :
    TxHist e0 (step e (.send d)).1 fin := by
  obtain ⟨_, hm, hx, _, _, _⟩ := q_step_send_fields e d hc
  refine ⟨q_step_send e d hc h.inv, h.fresh0, by rw [hx]; exact Nat.le_succ_of_le h.le, h.nd, ?_, ?_⟩
  · intro t ht
    rw [hx]
    rcases h.was t ht with h1 | ⟨h1, h2⟩
    · exact Or.inl h1
    · exact Or.inr ⟨h1, Nat.lt_succ_of_lt h2⟩
  · intro t
    rw [hm, hx]
    simp only [List.mem_append, List.mem_cons, List.not_mem_nil, or_false]
    rw [h.live t]
    have hle := h.le
    constructor
    · rintro (⟨h1 | ⟨h1, h2⟩, h3⟩ | h1)
      · exact ⟨Or.inl h1, h3⟩
      · exact ⟨Or.inr ⟨h1, Nat.lt_succ_of_lt h2⟩, h3⟩
      · subst h1
        refine ⟨Or.inr ⟨hle, Nat.lt_succ_self _⟩, ?_⟩
        intro hf
        rcases h.was _ hf with h1 | ⟨_, h2⟩
        · have := h.fresh0 _ h1; omega
        · omega
    · rintro ⟨h1 | ⟨h1, h2⟩, h3⟩
      · exact Or.inl ⟨Or.inl h1, h3⟩
      · by_cases ht : t = e.txNextId
        · exact Or.inr ht
        · exact Or.inl ⟨Or.inr ⟨h1, by omega⟩, h3⟩

theorem txFin_step_send (e : Ep) (d : Bytes) : txFin (step e (.send d)).2 = [] := by
  cases hc : e.closed
  · rw [(q_step_send_fields e d hc).1]; rfl
  · rw [step_send_closed e d hc]; rfl

theorem TxHist.step_any {e0 e : Ep} {fin} (h : TxHist e0 e fin) (ev : Ev) :
    ∃ f1, txFin (step e ev).2 = f1.map txSig ∧ TxHist e0 (step e ev).1 (fin ++ f1) ∧
      (if ev.isSend then (step e ev).2 else []) =
        (List.range' e.txNextId ((step e ev).1.txNextId - e.txNextId)).map retId := by
  rcases ev.queue_cases with ⟨d, rfl⟩ | ⟨tid, rfl⟩ | ⟨hs, hp⟩
  · refine ⟨[], by simp [txFin_step_send], ?_, ?_⟩
    · cases hc : e.closed
      · simpa using h.step_send d hc
      · rw [step_send_closed e d hc]; simpa using h
    · cases hc : e.closed
      · obtain ⟨ho, _, hx, _⟩ := q_step_send_fields e d hc
        simp [Ev.isSend, ho, hx, retId, List.range'_one]
      · rw [step_send_closed e d hc]; simp [Ev.isSend]
  · rw [step_pop]
    obtain ⟨p1, p2, p3, _, p5, _⟩ := qv_tx_popRx e tid
    refine ⟨[], by simp [p5], ?_, by simp [Ev.isSend, p2]⟩
    simp only [List.append_nil]
    exact ⟨⟨p3 ▸ h.inv.fl, p1 ▸ h.inv.nd, by rw [p1, p3]; exact h.inv.iff, by rw [p1, p2]; exact h.inv.fresh⟩,
      h.fresh0, p2 ▸ h.le, h.nd, by rw [p2]; exact h.was, by rw [p1, p2]; exact h.live⟩
  · obtain ⟨hi, hr, _⟩ := q_step e ev hs hp h.inv
    obtain ⟨f1, a, b⟩ := h.step_rel hi hr
    obtain ⟨_, _, _, _, _, hx⟩ := hr
    exact ⟨f1, a, b, by simp [hs, hx]⟩

theorem txNextId_le_step {e : Ep} (hi : QInv e) (ev : Ev) : e.txNextId ≤ (step e ev).1.txNextId := by
  obtain ⟨_, _, h, _⟩ := (TxHist.init hi).step_any ev
  exact h.le

theorem q_run_tx_aux (evs : List Ev) : ∀ (e0 e : Ep) (fin : List (Nat × Nat × String)), TxHist e0 e fin →
    ∃ f, txFin (run e evs).2.flatten = f.map txSig ∧ TxHist e0 (run e evs).1 (fin ++ f) ∧
      sendRets evs (run e evs).2 = (List.range' e.txNextId ((run e evs).1.txNextId - e.txNextId)).map retId
      ∧ e.txNextId ≤ (run e evs).1.txNextId := by
  induction evs with
  | nil =>
    intro e0 e fin h
    exact ⟨[], by simp [run], by simpa [run] using h, by simp [run, sendRets], Nat.le_refl _⟩
  | cons ev evs ih =>
    intro e0 e fin h
    obtain ⟨f1, a1, a2, a3⟩ := h.step_any ev
    obtain ⟨f2, b1, b2, b3, b4⟩ := ih e0 (step e ev).1 (fin ++ f1) a2
    have a4 := txNextId_le_step h.inv ev
    refine ⟨f1 ++ f2, ?_, ?_, ?_, ?_⟩
    · rw [run_cons_snd, List.flatten_cons, txFin_append, a1, b1, List.map_append]
    · rw [run_cons_fst, ← List.append_assoc]; exact b2
    · rw [run_cons_snd, run_cons_fst]
      simp only [sendRets]
      -- the ids handed out by the step and by the rest of the run are adjacent ranges
      rw [a3, b3, ← List.map_append, show (run (step e ev).1 evs).1.txNextId - e.txNextId =
          ((step e ev).1.txNextId - e.txNextId) + ((run (step e ev).1 evs).1.txNextId - (step e ev).1.txNextId) by omega,
        List.range'_append_1 |>.symm]
      congr 3
      omega
    · rw [run_cons_fst]; exact Nat.le_trans a4 b4

end Tcpcl
end DtnVerif
