/-
  Frame lemmas for the acknowledgement-causality invariant: which transactions leave the segments
  (`segInfo`) and the MSG_REJECTs (`rejsOf`) among the emitted messages alone (through `Tr.emitted`,
  Lemmas/TcpclAckSeq.lean), and which functions leave `txTmp` / `txPendAck` alone.
-/
import DtnVerif.Lemmas.TcpclOwed
import DtnVerif.Lemmas.TcpclAckSucc
namespace DtnVerif
namespace Tcpcl

def rejsOf (ms : List Msg) : List Msg := ms.filter Msg.isRej

@[simp] theorem segInfo_append (a b : List Msg) : segInfo (a ++ b) = segInfo a ++ segInfo b := by
  simp [segInfo, List.flatMap_append]
@[simp] theorem segInfo_nil : segInfo [] = [] := rfl
attribute [simp] segInfo_cons segInfoOf
@[simp] theorem rejsOf_append (a b : List Msg) : rejsOf (a ++ b) = rejsOf a ++ rejsOf b := by simp [rejsOf]
@[simp] theorem rejsOf_nil : rejsOf [] = [] := rfl
@[simp] theorem rejsOf_cons (m : Msg) (ms : List Msg) :
    rejsOf (m :: ms) = if m.isRej then m :: rejsOf ms else rejsOf ms := by
  simp [rejsOf, List.filter_cons]
attribute [simp] Msg.isRej

@[simp] theorem si_sendMessage (e : Ep) (m : Msg) :
    segInfo (sendMessage e m).emitted = segInfo e.emitted ++ segInfoOf m := by
  rw [emitted_sendMessage, segInfo_append, segInfo_cons, segInfo_nil, List.append_nil]
@[simp] theorem rj_sendMessage (e : Ep) (m : Msg) :
    rejsOf (sendMessage e m).emitted = rejsOf e.emitted ++ rejsOf [m] := by
  rw [emitted_sendMessage, rejsOf_append]

theorem Tr.segs_eq {k : Kind} {a b : Ep} (h : Tr k a b) (hk : k ≠ .pq) : segInfo b.emitted = segInfo a.emitted :=
  h.emitted_frame segInfo segInfo_append fun m hm => by cases m <;> first | rfl | exact absurd hm hk

theorem Reach.segs_eq {k : Kind} {a b : Ep} (h : Reach k a b) (hk : k ≠ .pq) : segInfo b.emitted = segInfo a.emitted :=
  h.inv (P := fun e => segInfo e.emitted = segInfo a.emitted)
    (fun _ _ _ t hs hi => (t.segs_eq (Kind.ne_of_sub hs hk (.inr (.inr rfl)))).trans hi) rfl

theorem Tr.rejs_eq {k : Kind} {a b : Ep} (h : Tr k a b) (hk : k.recv = false) : rejsOf b.emitted = rejsOf a.emitted :=
  h.emitted_frame rejsOf rejsOf_append fun m hm => by
    cases m <;> first | rfl | exact absurd (hm ▸ hk) (by decide)

@[simp] theorem si_kaReset (e : Ep) : segInfo (kaReset e).emitted = segInfo e.emitted := rfl
@[simp] theorem si_idleReset (e : Ep) : segInfo (idleReset e).emitted = segInfo e.emitted := rfl
@[simp] theorem rj_kaReset (e : Ep) : rejsOf (kaReset e).emitted = rejsOf e.emitted := rfl
@[simp] theorem rj_idleReset (e : Ep) : rejsOf (idleReset e).emitted = rejsOf e.emitted := rfl
@[simp] theorem rj_processQueue (e : Ep) : rejsOf (processQueue e).1.emitted = rejsOf e.emitted :=
  (reach_processQueue e).inv (P := fun e' => rejsOf e'.emitted = rejsOf e.emitted)
    (fun _ _ _ t hs hi => (t.rejs_eq (Kind.recv_of_sub hs rfl)).trans hi) rfl

def Ep.tp (e : Ep) := (e.txTmp, e.txPendAck)

theorem tp_sendMessage (e : Ep) (m : Msg) : (sendMessage e m).tp = e.tp := by
  simp only [Ep.tp, sendMessage, sendReady, kaReset, idleReset]
theorem tp_flush (e : Ep) : (flushPendStart e).1.tp = e.tp := rfl

theorem Tr.tp_loc {a b : Ep} (h : Tr .loc a b) : b.tp = a.tp := by
  cases h <;> rfl

theorem Reach.tp_loc {a b : Ep} (h : Reach .loc a b) : b.tp = a.tp :=
  h.inv (P := fun e => e.tp = a.tp) (fun k _ _ t hs hi => by cases k <;> first | exact t.tp_loc.trans hi | cases hs) rfl

theorem tp_checkSessTerm (e : Ep) : (checkSessTerm e).1.tp = e.tp := (reach_checkSessTerm e).tp_loc
theorem tp_sendSessTerm (e : Ep) (r : Nat) (b : Bool) : (sendSessTerm e r b).1.tp = e.tp := (reach_sendSessTerm e r b).tp_loc
theorem tp_segAccept (e : Ep) (f t : Nat) (c d : Bytes) (o : List Out) : (segAccept e f t c d o).1.tp = e.tp := by
  unfold segAccept
  dsimp only
  split
  · have h := tp_sendMessage e (.xferAck f t (c ++ d).length)
    generalize sendMessage e (.xferAck f t (c ++ d).length) = e2 at h ⊢
    exact (tp_checkSessTerm _).trans h
  · exact tp_sendMessage { e with rxTmp := some (t, c ++ d) } _
theorem tp_onSessTerm (e : Ep) (m : Msg) (r : Nat) : (onSessTerm e m r).1.tp = e.tp := by
  unfold onSessTerm
  split
  · exact tp_sendMessage e _
  · refine (tp_checkSessTerm _).trans ((tp_flush _).trans ?_)
    dsimp only
    split
    · exact tp_sendSessTerm e r true
    · rfl
theorem tp_onSegment (e : Ep) (m : Msg) (f t : Nat) (d : Bytes) : (onSegment e m f t d).1.tp = e.tp := by
  unfold onSegment
  split
  · exact tp_sendMessage e _
  · split
    · exact tp_segAccept { e with rxTmp := some (t, []) } _ _ _ _ _
    · split
      · split
        · exact tp_segAccept e _ _ _ _ _
        · exact tp_sendMessage e _
      · exact tp_sendMessage e _

@[simp] theorem tt_kaReset (e : Ep) : (kaReset e).txTmp = e.txTmp := rfl
@[simp] theorem tt_idleReset (e : Ep) : (idleReset e).txTmp = e.txTmp := rfl
@[simp] theorem tt_sendMessage (e : Ep) (m : Msg) : (sendMessage e m).txTmp = e.txTmp := congrArg Prod.fst (tp_sendMessage e m)
@[simp] theorem tt_flush (e : Ep) : (flushPendStart e).1.txTmp = e.txTmp := rfl
@[simp] theorem tt_mergeSession (e : Ep) (p : PeerInit) : (mergeSession e p).txTmp = e.txTmp := by
  simp only [mergeSession, kaReset, idleReset]
@[simp] theorem tt_sendContact (e : Ep) : (sendContact e).txTmp = e.txTmp := tt_sendMessage e (.contact 0)
@[simp] theorem tt_sendInit (e : Ep) : (sendInit e).txTmp = e.txTmp :=
  tt_sendMessage e (.sessInit e.cfg.keepalive e.cfg.segMru sizeMax e.cfg.nodeId (sessionExt e.cfg))
@[simp] theorem tt_sendReject (e : Ep) (r : Nat) (m : Msg) : (sendReject e r m).txTmp = e.txTmp :=
  tt_sendMessage e (.msgReject m.type r)
@[simp] theorem tt_onSessTerm (e : Ep) (m : Msg) (r : Nat) : (onSessTerm e m r).1.txTmp = e.txTmp :=
  congrArg Prod.fst (tp_onSessTerm e m r)
@[simp] theorem tt_onSegment (e : Ep) (m : Msg) (f t : Nat) (d : Bytes) :
    (onSegment e m f t d).1.txTmp = e.txTmp :=
  congrArg Prod.fst (tp_onSegment e m f t d)

@[simp] theorem pa_kaReset (e : Ep) : (kaReset e).txPendAck = e.txPendAck := rfl
@[simp] theorem pa_idleReset (e : Ep) : (idleReset e).txPendAck = e.txPendAck := rfl
attribute [simp] pa_sendMessage
@[simp] theorem pa_flush (e : Ep) : (flushPendStart e).1.txPendAck = e.txPendAck := rfl
@[simp] theorem pa_mergeSession (e : Ep) (p : PeerInit) : (mergeSession e p).txPendAck = e.txPendAck := by
  simp only [mergeSession, kaReset, idleReset]
@[simp] theorem pa_sendContact (e : Ep) : (sendContact e).txPendAck = e.txPendAck := pa_sendMessage e (.contact 0)
@[simp] theorem pa_sendInit (e : Ep) : (sendInit e).txPendAck = e.txPendAck :=
  pa_sendMessage e (.sessInit e.cfg.keepalive e.cfg.segMru sizeMax e.cfg.nodeId (sessionExt e.cfg))
@[simp] theorem pa_sendReject (e : Ep) (r : Nat) (m : Msg) : (sendReject e r m).txPendAck = e.txPendAck :=
  pa_sendMessage e (.msgReject m.type r)
@[simp] theorem pa_onSessTerm (e : Ep) (m : Msg) (r : Nat) : (onSessTerm e m r).1.txPendAck = e.txPendAck :=
  congrArg Prod.snd (tp_onSessTerm e m r)
@[simp] theorem pa_onSegment (e : Ep) (m : Msg) (f t : Nat) (d : Bytes) :
    (onSegment e m f t d).1.txPendAck = e.txPendAck :=
  congrArg Prod.snd (tp_onSegment e m f t d)

end Tcpcl
end DtnVerif
