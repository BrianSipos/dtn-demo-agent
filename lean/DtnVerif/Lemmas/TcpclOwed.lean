/-
  Pure facts about legal message sequences and the acknowledgements the ideal receiver owes for them
  (`specAcks`): for a legal sequence every segment is accepted, the owed acknowledgements are one per
  segment with its id and END flag, ids never decrease, and after the END segment of a transfer no
  later segment carries its id.
-/
import DtnVerif.Lemmas.TcpclAckSeqInv
import DtnVerif.Lemmas.TcpclTx
namespace DtnVerif
namespace Tcpcl

def segInfoOf : Msg → List (Nat × Bool)
  | .xferSegment f t _ _ => [(t, hasEnd f)]
  | _ => []

def segInfo (ms : List Msg) : List (Nat × Bool) := ms.flatMap segInfoOf

def ackTid : Msg → Nat
  | .xferAck _ t _ => t
  | _ => 0
def ackIsEnd : Msg → Bool
  | .xferAck f _ _ => hasEnd f
  | _ => false
def ackInfo (m : Msg) : Nat × Bool := (ackTid m, ackIsEnd m)

def Rel (s : LState) (r : RxSpec) : Prop :=
  r.inSess = decide (s.phase = 2) ∧ s.cur.map (·.1) = r.cur.map (·.1)

theorem Rel.cur_of {s : LState} {r : RxSpec} {t tot so : Nat} (h : Rel s r) (hc : s.cur = some (t, tot, so)) :
    ∃ c, r.cur = some (t, c) := by
  have h2 := h.2
  rw [hc] at h2
  cases hr : r.cur with
  | none => rw [hr] at h2; cases h2
  | some p => rw [hr] at h2; injection h2 with h2; exact ⟨p.2, by rw [show t = p.1 from h2]⟩

theorem rel_init : Rel {} {} := ⟨by decide, rfl⟩

theorem legalStep_seg_cur {s s1 : LState} {f t : Nat} {x d : Bytes} (h : legalStep s (.xferSegment f t x d) = some s1) :
    s1.cur.map (·.1) = if hasEnd f then none else some t := by
  obtain ⟨-, -, -, h⟩ := legalStep_inv h
  cases he : hasEnd f <;> simp only [he, Bool.false_eq_true, if_false, if_true] at h ⊢
  · split at h
    · obtain ⟨-, -, -, -, total, -, -, hc⟩ := h; rw [hc]; rfl
    · obtain ⟨-, -, total, sofar, -, -, hc⟩ := h; rw [hc]; rfl
  · split at h
    · obtain ⟨-, -, -, -, total, -, -, hc⟩ := h; rw [hc]; rfl
    · obtain ⟨-, -, total, sofar, -, -, hc⟩ := h; rw [hc]; rfl

theorem rel_step (s s1 : LState) (r : RxSpec) (m : Msg) (hr : Rel s r) (hs : legalStep s m = some s1) :
    Rel s1 (rxSpecStep r m) ∧ (ackOfStep r m).toList.map ackInfo = segInfoOf m := by
  obtain ⟨h1, h2⟩ := hr
  have h := legalStep_inv hs
  cases m with
  | contact f =>
    obtain ⟨hp, rfl⟩ := h
    exact ⟨⟨by simp [rxSpecStep, h1, hp], h2⟩, by simp [ackOfStep, segInfoOf]⟩
  | sessInit a b c d x =>
    obtain ⟨-, rfl⟩ := h
    exact ⟨⟨by simp [rxSpecStep], h2⟩, by simp [ackOfStep, segInfoOf]⟩
  | sessTerm a b =>
    obtain ⟨-, -, rfl⟩ := h
    exact ⟨⟨by simpa [rxSpecStep] using h1, h2⟩, by simp [ackOfStep, segInfoOf]⟩
  | keepalive | msgReject _ _ | xferAck _ _ _ | xferRefuse _ _ =>
    obtain ⟨-, rfl⟩ := h
    exact ⟨⟨by simpa [rxSpecStep] using h1, h2⟩, by simp [ackOfStep, segInfoOf]⟩
  | xferSegment flags tid ext data =>
    have hcur := legalStep_seg_cur hs
    obtain ⟨hph, hph1, -, h⟩ := h
    have hin : r.inSess = true := by rw [h1, hph]; decide
    -- a segment the monitor admits is one the receiver accepts: they agree on the open transfer
    obtain ⟨cur, hc⟩ : ∃ cur, if hasStart flags then cur = [] else r.cur = some (tid, cur) := by
      split
      · exact ⟨[], rfl⟩
      · rename_i hst
        rw [if_neg hst] at h
        obtain ⟨-, -, total, sofar, hcs, -⟩ := h
        exact Rel.cur_of ⟨h1, h2⟩ hcs
    rw [rxSpecStep_seg r flags tid ext data cur hin hc, ackOfStep_seg r flags tid ext data cur hin hc]
    refine ⟨⟨?_, ?_⟩, rfl⟩
    · rw [hph1]; split <;> exact hin
    · rw [hcur]; split <;> rfl

theorem owed_info (ms : List Msg) : ∀ (s s' : LState) (r : RxSpec), Rel s r → legalRun s ms = some s' →
    (specAcksFrom r ms).map ackInfo = segInfo ms ∧ Rel s' (ms.foldl rxSpecStep r) := by
  induction ms with
  | nil => intro s s' r hr h; simp only [legalRun, Option.some.injEq] at h; subst h; exact ⟨rfl, hr⟩
  | cons m ms ih =>
    intro s s' r hr h
    obtain ⟨s1, hs, h⟩ := legalRun_cons_some h
    obtain ⟨hr1, ha⟩ := rel_step s s1 r m hr hs
    obtain ⟨h1, h2⟩ := ih s1 s' (rxSpecStep r m) hr1 h
    refine ⟨?_, h2⟩
    simp only [specAcksFrom, List.map_append, segInfo, List.flatMap_cons]
    rw [ha]
    congr 1

theorem owed_info_legal (ms : List Msg) (h : (legalRun {} ms).isSome) :
    (specAcks ms).map ackInfo = segInfo ms := by
  obtain ⟨L, hL⟩ := Option.isSome_iff_exists.mp h
  exact (owed_info ms {} L {} rel_init hL).1

def CurLe (s : LState) : Prop := ∀ c, s.cur = some c → c.1 ≤ s.lastTid

/-- every segment to come has an id above `t` -/
def Above (t : Nat) (s : LState) : Prop := t ≤ s.lastTid ∧ ∀ c, s.cur = some c → t < c.1

theorem Msg.seg_or (m : Msg) : (∃ f t x d, m = .xferSegment f t x d) ∨ segInfoOf m = [] := by
  cases m <;> first | exact .inr rfl | exact .inl ⟨_, _, _, _, rfl⟩

theorem segInfo_cons (m : Msg) (ms : List Msg) : segInfo (m :: ms) = segInfoOf m ++ segInfo ms := List.flatMap_cons

theorem legalStep_nonseg (s s1 : LState) (m : Msg) (hm : segInfoOf m = []) (hs : legalStep s m = some s1) :
    s1.cur = s.cur ∧ s1.lastTid = s.lastTid := by
  have h := legalStep_inv hs
  cases m with
  | xferSegment f t x d => cases hm
  | sessTerm a b => rw [h.2.2]; exact ⟨rfl, rfl⟩
  | _ => rw [h.2]; exact ⟨rfl, rfl⟩

theorem legalStep_above {s s1 : LState} {m : Msg} (hs : legalStep s m = some s1) (hc : CurLe s) :
    CurLe s1 ∧ (∀ t, Above t s → Above t s1 ∧ ∀ x ∈ segInfoOf m, t < x.1)
    ∧ (∀ t, (t, true) ∈ segInfoOf m → Above t s1) := by
  rcases m.seg_or with ⟨flags, tid, ext, data, rfl⟩ | hm
  · obtain ⟨-, -, -, h⟩ := legalStep_inv hs
    have key : tid ≤ s1.lastTid ∧ s.lastTid ≤ s1.lastTid ∧ ∀ t, Above t s → t < tid := by
      split at h
      · obtain ⟨-, -, hlt, hl1, -⟩ := h
        exact ⟨Nat.le_of_eq hl1.symm, hl1 ▸ Nat.le_of_lt hlt, fun t ha => Nat.lt_of_le_of_lt ha.1 hlt⟩
      · obtain ⟨-, hl1, total, sofar, hcs, -⟩ := h
        exact ⟨hl1 ▸ hc _ hcs, Nat.le_of_eq hl1.symm, fun t ha => ha.2 _ hcs⟩
    have k4 : ∀ c, s1.cur = some c → c.1 = tid ∧ hasEnd flags = false := by
      intro c hcc
      have hcur := legalStep_seg_cur hs
      rw [hcc] at hcur
      split at hcur
      · cases hcur
      · rename_i he; injection hcur with hcur; exact ⟨hcur, by simpa using he⟩
    obtain ⟨k1, k2, k3⟩ := key
    simp only [segInfoOf, List.mem_singleton]
    refine ⟨fun c hcc => by rw [(k4 c hcc).1]; exact k1,
      fun t ha => ⟨⟨Nat.le_trans ha.1 k2, fun c hcc => by rw [(k4 c hcc).1]; exact k3 t ha⟩, fun x hx => hx ▸ k3 t ha⟩,
      fun t ht => ?_⟩
    obtain ⟨rfl, he⟩ := Prod.mk.inj ht
    exact ⟨k1, fun c hcc => Bool.noConfusion (he.trans (k4 c hcc).2)⟩
  · obtain ⟨e1, e2⟩ := legalStep_nonseg s s1 m hm hs
    -- `CurLe` and `Above` look at `cur` and `lastTid` only
    have c1 : CurLe s1 := by unfold CurLe; rw [e1, e2]; exact hc
    have ab : ∀ t, Above t s → Above t s1 := by unfold Above; rw [e1, e2]; exact fun _ ha => ha
    rw [hm]
    exact ⟨c1, fun t ha => ⟨ab t ha, nofun⟩, nofun⟩

theorem legal_above (ms : List Msg) : ∀ (s s' : LState), legalRun s ms = some s' → CurLe s →
    ∀ t, Above t s → ∀ x ∈ segInfo ms, t < x.1 := by
  induction ms with
  | nil => intro s s' _ _ t _ x hx; cases hx
  | cons m ms ih =>
    intro s s' h hc t ha x hx
    obtain ⟨s1, hs, h⟩ := legalRun_cons_some h
    obtain ⟨c1, a1, -⟩ := legalStep_above hs hc
    rw [segInfo_cons] at hx
    rcases List.mem_append.mp hx with hx | hx
    · exact (a1 t ha).2 x hx
    · exact ih s1 s' h c1 t (a1 t ha).1 x hx

theorem legal_end_last (ms : List Msg) : ∀ (s s' : LState), legalRun s ms = some s' → CurLe s →
    ∀ pre t rest, segInfo ms = pre ++ (t, true) :: rest → ∀ x ∈ rest, t < x.1 := by
  induction ms with
  | nil => intro s s' _ _ pre t rest h; simp [segInfo] at h
  | cons m ms ih =>
    intro s s' h hc pre t rest hsplit
    obtain ⟨s1, hs, h1⟩ := legalRun_cons_some h
    obtain ⟨c1, -, a2⟩ := legalStep_above hs hc
    rw [segInfo_cons] at hsplit
    rcases m.seg_or with ⟨flags, tid, ext, data, rfl⟩ | hm
    · cases pre with
      | nil =>
        simp only [segInfoOf, List.singleton_append, List.nil_append, List.cons.injEq] at hsplit
        rw [← hsplit.2]
        exact legal_above ms s1 s' h1 c1 t (a2 t (hsplit.1 ▸ List.mem_singleton_self _))
      | cons p pre' =>
        simp only [segInfoOf, List.cons_append, List.cons.injEq] at hsplit
        exact ih s1 s' h1 c1 pre' t rest hsplit.2
    · rw [hm, List.nil_append] at hsplit
      exact ih s1 s' h1 c1 pre t rest hsplit

theorem curLe_init : CurLe {} := by intro c h; simp at h

end Tcpcl
end DtnVerif
