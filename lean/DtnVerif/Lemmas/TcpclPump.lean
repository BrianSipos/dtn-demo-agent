/-
  G-pump: the octets accepted by the socket, followed by what sits in the two transmit buffers, are
  always exactly the encoding of the emitted message sequence. Hence the wire is always a prefix
  of `encodeAll emitted`, under any back-pressure.
-/
import DtnVerif.Lemmas.TcpclTr
import DtnVerif.Lemmas.TcpclCodec
namespace DtnVerif
namespace Tcpcl

theorem encodeAll_append (a b : List Msg) : encodeAll (a ++ b) = encodeAll a ++ encodeAll b := by
  induction a with
  | nil => rfl
  | cons m ms ih => simp [encodeAll, ih]

def PumpInv (e : Ep) : Prop := encodeAll e.emitted = e.accepted ++ e.connBuf ++ e.txBuf

structure PumpView where
  emitted : List Msg
  accepted : Bytes
  connBuf : Bytes
  txBuf : Bytes

def Ep.pumpView (e : Ep) : PumpView := ⟨e.emitted, e.accepted, e.connBuf, e.txBuf⟩

theorem pumpInv_of_view {e e' : Ep} (h : e'.pumpView = e.pumpView) (hi : PumpInv e) : PumpInv e' := by
  simp only [Ep.pumpView, PumpView.mk.injEq] at h
  obtain ⟨h1, h2, h3, h4⟩ := h
  unfold PumpInv at *
  rw [h1, h2, h3, h4]; exact hi

@[simp] theorem pv_kaReset (e : Ep) : (kaReset e).pumpView = e.pumpView := rfl
@[simp] theorem pv_idleReset (e : Ep) : (idleReset e).pumpView = e.pumpView := rfl
@[simp] theorem pv_doClose (e : Ep) : (doClose e).1.pumpView = e.pumpView := by
  unfold doClose; split <;> rfl
@[simp] theorem pv_checkSessTerm (e : Ep) : (checkSessTerm e).1.pumpView = e.pumpView := by
  unfold checkSessTerm; split
  · exact pv_doClose e
  · rfl

theorem pumpInv_sent (e : Ep) (m : Msg) (hi : PumpInv e) : PumpInv (e.sent m) := by
  unfold PumpInv at *
  simp only [Ep.sent, encodeAll_append, encodeAll, List.append_nil, hi,
    List.append_assoc]

/-- octets only ever move from `txBuf` to `connBuf` to the socket, and enter `txBuf` as the encoding of an
    emitted message -/
theorem pumpInv_tr {k : Kind} {a b : Ep} (h : Tr k a b) (hi : PumpInv a) : PumpInv b := by
  cases h with
  | contact => exact pumpInv_of_view (e := a.sent (.contact 0)) rfl (pumpInv_sent a _ hi)
  | init =>
    exact pumpInv_of_view (e := a.sent (.sessInit a.cfg.keepalive a.cfg.segMru sizeMax a.cfg.nodeId
      (sessionExt a.cfg))) rfl (pumpInv_sent a _ hi)
  | term _ f r _ => exact pumpInv_sent a _ hi
  | kaFire _ _ => exact pumpInv_sent _ _ hi
  | segMid _ it sent f x d n _ _ =>
    exact pumpInv_of_view (e := a.sent (.xferSegment f it.tid x d)) rfl (pumpInv_sent a _ hi)
  | segEnd _ it sent f x d _ _ =>
    exact pumpInv_of_view (e := a.sent (.xferSegment f it.tid x d)) rfl (pumpInv_sent a _ hi)
  | reject _ r m _ => exact pumpInv_sent _ _ hi
  | rxMid _ f t x d cur _ _ _ => exact pumpInv_sent _ _ hi
  | rxEnd _ f t x d cur _ _ _ =>
    exact pumpInv_of_view (e := (a.proc (.xferSegment f t x d)).sent (.xferAck f t (cur ++ d).length)) rfl
      (pumpInv_sent _ _ hi)
  | move =>
    unfold PumpInv at *
    simp only [hi, List.append_assoc, List.take_append_drop]
  | write _ n hn =>
    unfold PumpInv at *
    simp only [hi, List.take_take, Nat.min_eq_left hn, List.append_assoc, List.append_cancel_left_eq]
    rw [← List.append_assoc, List.take_append_drop]
  | _ => exact hi

theorem pumpInv_step (e : Ep) (ev : Ev) (hi : PumpInv e) : PumpInv (step e ev).1 :=
  step_inv (fun _ _ _ => pumpInv_tr) e ev hi

theorem pumpInv_init (cfg : Cfg) : PumpInv { cfg := cfg } := by
  simp [PumpInv, encodeAll]

theorem pumpInv_run (evs : List Ev) (e : Ep) (hi : PumpInv e) : PumpInv (runEp e evs) :=
  run_inv pumpInv_step evs e hi

end Tcpcl
end DtnVerif
