/-
  Which transaction emits which messages. (`acksOf` = the XFER_ACK messages of a sequence, in order.)
  Every transaction hands at most one message to `send_message`, of a type that only transactions of
  its kind send (`Tr.emitted`); a projection of `emitted` that ignores those types is unchanged by it
  (`Tr.emitted_frame`).
-/
import DtnVerif.Lemmas.TcpclTr
namespace DtnVerif
namespace Tcpcl

def isAck : Msg → Bool
  | .xferAck .. => true
  | _ => false

def acksOf (ms : List Msg) : List Msg := ms.filter isAck

@[simp] theorem acksOf_append (a b : List Msg) : acksOf (a ++ b) = acksOf a ++ acksOf b := by
  simp [acksOf]
@[simp] theorem acksOf_nil : acksOf [] = [] := rfl
@[simp] theorem emitted_sendMessage (e : Ep) (m : Msg) : (sendMessage e m).emitted = e.emitted ++ [m] := emitted_sent e m

@[simp] theorem acksOf_cons (m : Msg) (ms : List Msg) :
    acksOf (m :: ms) = if isAck m then m :: acksOf ms else acksOf ms := by
  simp [acksOf, List.filter_cons]
attribute [simp] isAck

@[simp] theorem ak_sendMessage (e : Ep) (m : Msg) :
    acksOf (sendMessage e m).emitted = acksOf e.emitted ++ acksOf [m] := by
  simp [sendMessage, sendReady, kaReset, idleReset]

@[simp] theorem ak_kaReset (e : Ep) : acksOf (kaReset e).emitted = acksOf e.emitted := rfl
@[simp] theorem ak_idleReset (e : Ep) : acksOf (idleReset e).emitted = acksOf e.emitted := rfl

/-- the message types that transactions of kind `k` send: XFER_ACK and MSG_REJECT answer a received message,
    segments come from `_process_queue`, KEEPALIVE from its timer; an endpoint never refuses a transfer -/
def Kind.sends (k : Kind) : Msg → Prop
  | .xferAck .. | .msgReject .. => k = .msg
  | .xferSegment .. => k = .pq
  | .keepalive => k = .ka
  | .contact _ | .sessInit .. | .sessTerm .. => k = .loc
  | .xferRefuse .. => False

theorem Tr.emitted {k : Kind} {a b : Ep} (h : Tr k a b) :
    b.emitted = a.emitted ∨ ∃ m, b.emitted = a.emitted ++ [m] ∧ k.sends m := by
  cases h with
  | contact | init | term | kaFire | segMid | segEnd | reject | rxMid | rxEnd => exact .inr ⟨_, emitted_sent _ _, rfl⟩
  | _ => exact .inl rfl

theorem Tr.emitted_frame {α} {k : Kind} {a b : Ep} (h : Tr k a b) (F : List Msg → List α)
    (hF : ∀ x y, F (x ++ y) = F x ++ F y) (h0 : ∀ m, k.sends m → F [m] = []) : F b.emitted = F a.emitted := by
  rcases h.emitted with he | ⟨m, he, hm⟩
  · rw [he]
  · rw [he, hF, h0 m hm, List.append_nil]

theorem Tr.acks_eq {k : Kind} {a b : Ep} (h : Tr k a b) (hk : k.recv = false) : acksOf b.emitted = acksOf a.emitted :=
  h.emitted_frame acksOf acksOf_append fun m hm => by
    cases m <;> first | rfl | exact absurd (hm ▸ hk) (by decide)

end Tcpcl
end DtnVerif
