/- Round trip of the Abstract Security Block codec (Model/BpAsb.lean). -/
import DtnVerif.Model.BpAsb
import DtnVerif.Lemmas.BundleDec
namespace DtnVerif
namespace Bp
open Cbor

theorem decSecVal_enc (v : SecVal) (r : Bytes) (h : wfSecVal v = true) :
    decSecVal (v.enc ++ r) = some (v, r) := by
  cases v with
  | uint n => simp [SecVal.enc, decSecVal, decUint_enc n r ((u64_iff _).1 h)]
  | bstr d =>
    have hl : d.length < 2 ^ 64 := (u64_iff _).1 h
    have hu : decUint (encBstr d ++ r) = none := by
      simp [decUint, encBstr, List.append_assoc, decHead_head 2 d.length (d ++ r) (by omega) hl]
    simp [SecVal.enc, decSecVal, hu, decBstr_enc d r hl]

theorem decPair_enc (p : SecPair) (r : Bytes) (h : wfPair p = true) :
    decPair (encPair p ++ r) = some (p, r) := by
  simp only [wfPair, Bool.and_eq_true] at h
  simp only [encPair, List.append_assoc, decPair, decArrHead_enc 2 _ (by omega),
    decUint_enc _ _ ((u64_iff _).1 h.1), decSecVal_enc _ _ h.2]
  simp

theorem decPairList_enc (ps : List SecPair) (r : Bytes) (h : ps.all wfPair = true) :
    decPairList ps.length (encPairList ps ++ r) = some (ps, r) := by
  induction ps with
  | nil => rfl
  | cons p ps ih =>
    simp only [List.all_cons, Bool.and_eq_true] at h
    simp only [List.length_cons, encPairList, List.append_assoc, decPairList,
      decPair_enc p _ h.1, ih h.2]

theorem decPairs_enc (ps : List SecPair) (r : Bytes) (h : wfPairs ps = true) :
    decPairs (encPairs ps ++ r) = some (ps, r) := by
  simp only [wfPairs, Bool.and_eq_true] at h
  simp only [encPairs, List.append_assoc, decPairs, decArrHead_enc _ _ ((u64_iff _).1 h.1),
    decPairList_enc ps r h.2]

theorem decResultList_enc (rs : List (List SecPair)) (r : Bytes) (h : rs.all wfPairs = true) :
    decResultList rs.length (encResultList rs ++ r) = some (rs, r) := by
  induction rs with
  | nil => rfl
  | cons x xs ih =>
    simp only [List.all_cons, Bool.and_eq_true] at h
    simp only [List.length_cons, encResultList, List.append_assoc, decResultList,
      decPairs_enc x _ h.1, ih h.2]

theorem decParams_enc (flags : Nat) (ps : List SecPair) (r : Bytes)
    (h : (if hasParams flags then wfPairs ps else ps.isEmpty) = true) :
    decParams (hasParams flags) ((if hasParams flags then encPairs ps else []) ++ r) = some (ps, r) := by
  unfold decParams
  cases hf : hasParams flags
  · simp only [hf, Bool.false_eq_true, if_false] at h ⊢
    cases ps with
    | nil => rfl
    | cons => simp at h
  · simp only [hf, if_true] at h ⊢
    exact decPairs_enc ps r h

theorem decAsbPrefix_enc (a : Asb) (r : Bytes) (h : wfAsb a = true) :
    decAsbPrefix (a.enc ++ r) = some (a, r) := by
  simp only [wfAsb, Bool.and_eq_true] at h
  obtain ⟨⟨⟨⟨⟨⟨⟨htl, ht⟩, hc⟩, hf⟩, hs⟩, hp⟩, hrl⟩, hr⟩ := h
  simp only [Asb.enc, List.append_assoc, decAsbPrefix, decArrHead_enc _ _ ((u64_iff _).1 htl),
    decNatList_enc _ _ ht, decUint_enc _ _ ((u64_iff _).1 hc), decUint_enc _ _ ((u64_iff _).1 hf),
    decEidRaw_enc _ _ hs, decParams_enc _ _ _ hp, decArrHead_enc _ _ ((u64_iff _).1 hrl),
    decResultList_enc _ _ hr]

theorem decAsb_enc (a : Asb) (h : wfAsb a = true) : decAsb a.enc = some a := by
  have := decAsbPrefix_enc a [] h
  rw [List.append_nil] at this
  simp [decAsb, this]

end Bp
end DtnVerif
