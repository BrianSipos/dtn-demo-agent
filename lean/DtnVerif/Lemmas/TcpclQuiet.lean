/-
  No deadlock while terminating.  Two endpoints which have processed everything the other one
  emitted, with no idle source and no TX source left at either, both terminating: neither can still
  be open — unless a KEEPALIVE was the last thing one of them heard (then the keepalive timer, which
  is still armed, is what will close it; that case is excluded by hypothesis here).
-/
import DtnVerif.Lemmas.TcpclLive
import DtnVerif.Lemmas.TcpclCausalSys
import DtnVerif.Lemmas.TcpclClose
import DtnVerif.Lemmas.TcpclGot
import DtnVerif.Lemmas.TcpclPendEnd
import DtnVerif.Lemmas.TcpclLegalMore
namespace DtnVerif
namespace Tcpcl

structure EpAll (e : Ep) : Prop where
  inv : EpInv e
  wake : WakeInv e
  q : QInv e
  sp : SP e
  as : ASInv e
  ak : AckSeqInv e
  ci : CI e
  ts : TSok e
  pe : PEInv e
  got : GotInv e
  cl : CL e
  rm : e.rxMore = false

theorem no_src_buffers {e : Ep} (ht : TSok e) (ho : e.closed = false) (hs : e.txSrc = 0) :
    e.txBuf = [] ∧ e.connBuf = [] := by
  have h : ¬(e.txBuf ≠ [] ∨ e.connBuf ≠ []) := fun h => Nat.lt_irrefl 0 (hs ▸ ht.buf ho h)
  exact ⟨Classical.not_not.mp fun h1 => h (.inl h1), Classical.not_not.mp fun h2 => h (.inr h2)⟩

theorem acksOf_getLast? {ms : List Msg} {m : Msg} (h : ms.getLast? = some m) (ha : isAck m = true) :
    (acksOf ms).getLast? = some m := by
  obtain ⟨pre, rfl⟩ := List.getLast?_eq_some_iff.mp h
  rw [acksOf_append]
  have : acksOf [m] = [m] := by
    simp only [acksOf, List.filter_cons, ha, if_true, List.filter_nil]
  rw [this]; simp

theorem endSeg_segInfo {t : Nat} {ms : List Msg} (h : endSeg t ms) : (t, true) ∈ segInfo ms := by
  obtain ⟨f, x, d, he, hm⟩ := h
  simp only [segInfo, List.mem_flatMap]
  exact ⟨_, hm, by simp [segInfoOf, he]⟩

theorem term_emitted {e : Ep} {P : LState} (h : TxInv e P) (ht : e.inTerm = true) :
    ∃ m ∈ e.emitted, m.isTerm' = true := by
  have hL := h.L
  simp only [Ep.txView] at hL
  have hts : (⟨phaseOf e.txView, e.inTerm, curL e.txView, e.nStarted⟩ : LState).termSeen = true := ht
  rcases termSeen_of_run e.emitted {} _ hL hts with h | h
  · cases h
  · exact h

theorem quiet_not_open (x y : Ep) (hx : EpAll x) (hy : EpAll y)
    (hxy : y.processed = x.emitted) (hyx : x.processed = y.emitted)
    (hxrx : x.rxBytes = encodeAll y.emitted) (hwfy : ∀ m ∈ y.emitted, m.WF)
    (yo : y.closed = false)
    (xpq : x.pqSources = 0) (xsrc : x.txSrc = 0) (ypq : y.pqSources = 0) (ysrc : y.txSrc = 0)
    (xterm : x.inTerm = true) (xgot : x.gotTerm = true) (yterm : y.inTerm = true)
    (noka : ∀ m ∈ y.emitted, m ≠ .keepalive) : x.closed = true := by
  apply Classical.byContradiction
  intro hne
  have xo : x.closed = false := by simpa using hne
  clear hne
  obtain ⟨Px, hPx⟩ := hx.inv.tx
  obtain ⟨Py, hPy⟩ := hy.inv.tx
  -- nothing buffered, nothing being sent
  obtain ⟨xb1, xb2⟩ := no_src_buffers hx.ts xo xsrc
  obtain ⟨yb1, _⟩ := no_src_buffers hy.ts yo ysrc
  obtain ⟨xtmp, xps⟩ := no_wake_tx hx.wake xo xpq xb1
  obtain ⟨ytmp, _⟩ := no_wake_tx hy.wake yo ypq yb1
  -- nothing half-received
  have xrxbuf : x.rx.buf = [] := by
    obtain ⟨rx, hbuf, hfeed⟩ := stream_whole _ (emitted_legal hy.inv) hwfy
    have h1 : (feed {} x.rxBytes).1 = x.rx := hx.inv.frame.1
    rw [← h1, hxrx, hfeed]; exact hbuf
  have xrxtmp : x.rxTmp = none := by
    rw [hx.inv.rx.2.1, hyx, hPy.spec_emitted, ytmp]; rfl
  have hak : acksOf y.emitted = specAcks x.emitted := by
    have := hy.ak; unfold AckSeqInv at this; rw [this, hxy]
  have hleg : (legalRun {} x.emitted).isSome := emitted_legal hx.inv
  -- nothing awaiting its final acknowledgement
  have xpa : x.txPendAck = [] := by
    cases hpa : x.txPendAck with
    | nil => rfl
    | cons t l =>
      exfalso
      have htm : t ∈ x.txPendAck := by rw [hpa]; simp
      have hseg := endSeg_segInfo (hx.pe t htm)
      rw [← owed_info_legal x.emitted hleg] at hseg
      obtain ⟨a, ha, hai⟩ := List.mem_map.mp hseg
      rw [← hak] at ha
      have hay : a ∈ y.emitted := (List.mem_filter.mp ha).1
      have haa : isAck a = true := (List.mem_filter.mp ha).2
      cases a with
      | xferAck f t' l' =>
        simp only [ackInfo, ackTid, ackIsEnd, Prod.mk.injEq] at hai
        obtain ⟨rfl, hend⟩ := hai
        have hproc : Msg.xferAck f t' l' ∈ x.processed := by rw [hyx]; exact hay
        apply (hx.sp.succ t' (success_of_ack hx.as hx.ci.no_rej hproc hend)).1
        apply (hx.q.iff t').mpr
        simp only [Ep.inflight, List.mem_append]
        exact Or.inr (Or.inr htm)
      | _ => simp [isAck] at haa
  -- so the session is idle and the closing condition holds
  have hdone : Done x = true := by
    simp [Done, isSessIdle, xterm, xgot, xrxbuf, hx.rm, xb1, xb2, xrxtmp, xtmp, xps, xpa]
  rcases hx.cl xo hdone with h | h | ⟨m, hlast, htrail⟩
  · rw [xpq] at h; exact absurd h (Nat.lt_irrefl 0)
  · rw [xsrc] at h; exact absurd h (Nat.lt_irrefl 0)
  · -- the last message processed is not one after which the code re-checks: impossible here
    rw [hyx] at hlast
    have hmem : m ∈ y.emitted := List.mem_of_getLast? hlast
    have hLy := hPy.L
    simp only [Ep.txView] at hLy
    cases m with
    | sessInit ka sm xm node ext =>
      have hnot := last_not_init y.emitted _ hLy ka sm xm node ext hlast
      obtain ⟨z, hz, hzt⟩ := term_emitted hPy yterm
      rw [hnot z hz] at hzt; cases hzt
    | keepalive => exact noka _ hmem rfl
    | msgReject a b => exact absurd (hy.ci.no_rej _ hmem) (by simp [Msg.isRej])
    | xferAck f t l =>
      have hne : hasEnd f = false := by simpa [Msg.isTrail] using htrail
      have h1 := acksOf_getLast? hlast rfl
      rw [hak] at h1
      have h2 : ((specAcks x.emitted).map ackInfo).getLast? = some (t, false) := by
        rw [List.getLast?_map, h1]; simp [ackInfo, ackTid, ackIsEnd, hne]
      rw [owed_info_legal x.emitted hleg] at h2
      have hLx := hPx.L
      simp only [Ep.txView] at hLx
      have := cur_of_last_seg x.emitted {} _ hLx
      rw [h2] at this
      simp only [curL, xtmp, Option.map_none, Option.isSome_none] at this
      cases this
    | contact f => simp [Msg.isTrail] at htrail
    | sessTerm f r => simp [Msg.isTrail] at htrail
    | xferSegment f t e d => simp [Msg.isTrail] at htrail
    | xferRefuse r t => simp [Msg.isTrail] at htrail

end Tcpcl
end DtnVerif
