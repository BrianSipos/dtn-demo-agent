import DtnVerif.Model.Cbor
import DtnVerif.Lemmas.Bytes
namespace DtnVerif
namespace Cbor

theorem headLen_ranges (n : Nat) :
    (headLen n = 1 ∧ n < 24) ∨ (headLen n = 2 ∧ 24 ≤ n ∧ n < 256) ∨
    (headLen n = 3 ∧ 256 ≤ n ∧ n < 65536) ∨ (headLen n = 5 ∧ 65536 ≤ n ∧ n < 4294967296) ∨
    (headLen n = 9 ∧ 4294967296 ≤ n) := by
  unfold headLen
  split
  · omega
  split
  · omega
  split
  · omega
  split <;> omega

theorem headLen_pos (n : Nat) : 0 < headLen n := by
  have := headLen_ranges n
  omega

theorem headLen_le_nine (n : Nat) : headLen n ≤ 9 := by
  have := headLen_ranges n
  omega

theorem headLen_mono {a b : Nat} (h : a ≤ b) : headLen a ≤ headLen b := by
  have := headLen_ranges a
  have := headLen_ranges b
  omega

@[simp] theorem head_length (mt n : Nat) : (head mt n).length = headLen n := by
  unfold head headLen
  split
  · simp
  · split
    · simp
    · split
      · simp
      · split <;> simp

private theorem div32 {mt a : Nat} (ha : a < 32) : (mt * 32 + a) / 32 = mt := by omega
private theorem mod32 {mt a : Nat} (ha : a < 32) : (mt * 32 + a) % 32 = a := by omega

private theorem decHead_long {mt ai k n : Nat} (r : Bytes) (hmt : mt < 8) (h24 : 24 ≤ ai)
    (h32 : ai < 32)
    (hk : (if ai = 24 then 1 else if ai = 25 then 2 else if ai = 26 then 4
           else if ai = 27 then 8 else 0) = k)
    (hk0 : k ≠ 0) (hn : n < 256 ^ k) :
    decHead (UInt8.ofNat (mt * 32 + ai) :: (beBytes k n ++ r)) = some (mt, n, r) := by
  have hb : mt * 32 + ai < 256 := by omega
  have hl : ¬ (beBytes k n ++ r).length < k := by simp
  simp only [decHead, UInt8.toNat_ofNat_of_lt' hb, div32 h32, mod32 h32, Nat.not_lt.2 h24, hk, hk0,
    hl, if_false]
  rw [List.take_left' (beBytes_length k n), List.drop_left' (beBytes_length k n),
    beNat_beBytes k n hn]

theorem decHead_head (mt n : Nat) (r : Bytes) (hmt : mt < 8) (hn : n < 2 ^ 64) :
    decHead (head mt n ++ r) = some (mt, n, r) := by
  unfold head
  split
  · rename_i h
    have hb : mt * 32 + n < 256 := by omega
    simp only [List.singleton_append, decHead, UInt8.toNat_ofNat_of_lt' hb,
      div32 (show n < 32 by omega), mod32 (show n < 32 by omega), h, if_true]
  · split
    · exact decHead_long r hmt (by omega) (by omega) rfl (by omega) (by omega)
    · split
      · exact decHead_long r hmt (by omega) (by omega) rfl (by omega) (by omega)
      · split
        · exact decHead_long r hmt (by omega) (by omega) rfl (by omega) (by omega)
        · exact decHead_long r hmt (by omega) (by omega) rfl (by omega) (by omega)

theorem decUint_enc (n : Nat) (r : Bytes) (hn : n < 2 ^ 64) :
    decUint (encUint n ++ r) = some (n, r) := by
  simp [decUint, encUint, decHead_head 0 n r (by omega) hn]

theorem decArrHead_enc (n : Nat) (r : Bytes) (hn : n < 2 ^ 64) :
    decArrHead (encArrHead n ++ r) = some (n, r) := by
  simp [decArrHead, encArrHead, decHead_head 4 n r (by omega) hn]

theorem decMapHead_enc (n : Nat) (r : Bytes) (hn : n < 2 ^ 64) :
    decMapHead (encMapHead n ++ r) = some (n, r) := by
  simp [decMapHead, encMapHead, decHead_head 5 n r (by omega) hn]

theorem decBstr_enc (d r : Bytes) (hn : d.length < 2 ^ 64) :
    decBstr (encBstr d ++ r) = some (d, r) := by
  simp [decBstr, encBstr, List.append_assoc, decHead_head 2 d.length (d ++ r) (by omega) hn]

theorem decTstr_enc (d r : Bytes) (hn : d.length < 2 ^ 64) :
    decTstr (encTstr d ++ r) = some (d, r) := by
  simp [decTstr, encTstr, List.append_assoc, decHead_head 3 d.length (d ++ r) (by omega) hn]

@[simp] theorem encUint_length (n : Nat) : (encUint n).length = headLen n := by simp [encUint]
@[simp] theorem encBstr_length (d : Bytes) : (encBstr d).length = headLen d.length + d.length := by
  simp [encBstr]
@[simp] theorem encTstr_length (d : Bytes) : (encTstr d).length = headLen d.length + d.length := by
  simp [encTstr]
@[simp] theorem encArrHead_length (n : Nat) : (encArrHead n).length = headLen n := by
  simp [encArrHead]
@[simp] theorem encMapHead_length (n : Nat) : (encMapHead n).length = headLen n := by
  simp [encMapHead]

theorem decHead_spec (b : Bytes) (mt n : Nat) (r : Bytes) (h : decHead b = some (mt, n, r)) :
    n < 2 ^ 64 ∧ r.length < b.length := by
  cases b with
  | nil => cases h
  | cons x rest =>
    rw [decHead] at h
    split at h
    · cases h; exact ⟨by omega, Nat.lt_succ_self _⟩
    · generalize hk : (if x.toNat % 32 = 24 then 1 else if x.toNat % 32 = 25 then 2
          else if x.toNat % 32 = 26 then 4 else if x.toNat % 32 = 27 then 8 else 0) = k at h
      dsimp only at h
      have hk8 : k ≤ 8 := by
        rw [← hk]; split; omega; split; omega; split; omega; split <;> omega
      split at h
      · cases h
      · split at h
        · cases h
        · cases h
          have hlt := beNat_lt (rest.take k)
          have : (256 : Nat) ^ (rest.take k).length ≤ 256 ^ 8 :=
            Nat.pow_le_pow_right (by decide) (by rw [List.length_take]; omega)
          have e : (256 : Nat) ^ 8 = 2 ^ 64 := by decide
          exact ⟨by omega, by simp only [List.length_drop, List.length_cons]; omega⟩

theorem decUint_head {b : Bytes} {n : Nat} {r : Bytes} (h : decUint b = some (n, r)) :
    decHead b = some (0, n, r) := by
  unfold decUint at h
  split at h
  · rename_i hd; cases h; exact hd
  · cases h

theorem decArrHead_head {b : Bytes} {n : Nat} {r : Bytes} (h : decArrHead b = some (n, r)) :
    decHead b = some (4, n, r) := by
  unfold decArrHead at h
  split at h
  · rename_i hd; cases h; exact hd
  · cases h

theorem decMapHead_head {b : Bytes} {n : Nat} {r : Bytes} (h : decMapHead b = some (n, r)) :
    decHead b = some (5, n, r) := by
  unfold decMapHead at h
  split at h
  · rename_i hd; cases h; exact hd
  · cases h

theorem decBstr_len {b d r : Bytes} (h : decBstr b = some (d, r)) : r.length < b.length := by
  unfold decBstr at h
  split at h
  · rename_i hd
    have := (decHead_spec _ _ _ _ hd).2
    split at h
    · cases h
    · cases h; simp only [List.length_drop]; omega
  · cases h

end Cbor
end DtnVerif
