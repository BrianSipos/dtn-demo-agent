/-
  No exception escapes a callback: with private test extensions off, no step of the endpoint —
  under any event, any peer message, in any state — produces an `escaped` output.
-/
import DtnVerif.Lemmas.TcpclCfg
import DtnVerif.Lemmas.TcpclShape
namespace DtnVerif
namespace Tcpcl

def Out.isEsc : Out → Bool
  | .escaped _ => true
  | _ => false

def noEsc (os : List Out) : Bool := os.all (fun o => !o.isEsc)

@[simp] theorem noEsc_nil : noEsc [] = true := rfl
@[simp] theorem noEsc_append (a b : List Out) : noEsc (a ++ b) = (noEsc a && noEsc b) := List.all_append
@[simp] theorem noEsc_cons (o : Out) (os : List Out) : noEsc (o :: os) = (!o.isEsc && noEsc os) := List.all_cons

theorem passes_noEsc : Passes false (fun o => !o.isEsc) := by
  intro o _ h
  cases o with
  | escaped w => exact absurd rfl (h rfl w)
  | _ => rfl

theorem esc_step (e : Ep) (ev : Ev) (hp : e.cfg.privExt = false) : noEsc (step e ev).2 = true :=
  all_step passes_noEsc e ev hp

theorem esc_run (evs : List Ev) (e : Ep) (hp : e.cfg.privExt = false) :
    ∀ os ∈ (run e evs).2, noEsc os = true :=
  run_outs (J := fun e _ => e.cfg.privExt = false)
    (fun e ev _ hp => ⟨by rw [cfg_step]; exact hp, esc_step e ev hp⟩) evs e hp

end Tcpcl
end DtnVerif
