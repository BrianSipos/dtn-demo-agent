/-
  `rxMore` (later messages of the current read still in `__rx_buf`) is only ever set inside the
  `recv_raw` loop and is cleared when the loop ends: between events it is always `false`.
-/
import DtnVerif.Lemmas.TcpclTr
namespace DtnVerif
namespace Tcpcl

@[simp] theorem rm_kaReset (e : Ep) : (kaReset e).rxMore = e.rxMore := rfl
@[simp] theorem rm_idleReset (e : Ep) : (idleReset e).rxMore = e.rxMore := rfl
@[simp] theorem rm_sendMessage (e : Ep) (m : Msg) : (sendMessage e m).rxMore = e.rxMore := by
  simp only [sendMessage, sendReady, kaReset, idleReset]
@[simp] theorem rm_flush (e : Ep) : (flushPendStart e).1.rxMore = e.rxMore := rfl
@[simp] theorem rm_mergeSession (e : Ep) (p : PeerInit) : (mergeSession e p).rxMore = e.rxMore := rfl
@[simp] theorem rm_sendContact (e : Ep) : (sendContact e).rxMore = e.rxMore := rm_sendMessage e (.contact 0)
@[simp] theorem rm_sendInit (e : Ep) : (sendInit e).rxMore = e.rxMore :=
  rm_sendMessage e (.sessInit e.cfg.keepalive e.cfg.segMru sizeMax e.cfg.nodeId (sessionExt e.cfg))
@[simp] theorem rm_sendReject (e : Ep) (r : Nat) (m : Msg) : (sendReject e r m).rxMore = e.rxMore :=
  rm_sendMessage e (.msgReject m.type r)

theorem rxMore_tr {k : Kind} {a b : Ep} (h : Tr k a b) (hk : k ≠ .rx) : b.rxMore = a.rxMore := by
  cases h with
  | rxMore _ _ => exact absurd rfl hk
  | _ => rfl

theorem Kind.ne_rx_of_sub {k k' : Kind} (h : k'.sub k = true) (hk : k ≠ .rx) : k' ≠ .rx := by
  cases k <;> cases k' <;> revert h hk <;> decide

theorem Reach.rxMore_eq {k : Kind} {a b : Ep} (h : Reach k a b) (hk : k ≠ .rx) : b.rxMore = a.rxMore :=
  h.inv (P := fun e => e.rxMore = a.rxMore) (fun _ _ _ t hs hi => (rxMore_tr t (Kind.ne_rx_of_sub hs hk)).trans hi) rfl

theorem rm_handleMsg (e : Ep) (m : Msg) : (handleMsg e m).1.rxMore = e.rxMore :=
  (reach_handleMsg e m).rxMore_eq (by decide)

theorem rxMore_recvRaw (e : Ep) (c : Bytes) : (recvRaw e c).1.rxMore = false := by
  unfold recvRaw
  simp only []
  split
  · exact (reach_doClose (k := .loc) _).rxMore_eq (by decide)
  · rfl

theorem rxMore_step (e : Ep) (ev : Ev) (h : e.rxMore = false) : (step e ev).1.rxMore = false := by
  cases ev with
  | rx c =>
    unfold step
    simp only []
    split
    · exact h
    · exact rxMore_recvRaw e c
  | _ => exact ((step_reach e _).rxMore_eq (by exact nofun)).trans h

theorem rxMore_run (evs : List Ev) : ∀ (e : Ep), e.rxMore = false → (runEp e evs).rxMore = false :=
  run_inv (P := fun e => e.rxMore = false) rxMore_step evs

end Tcpcl
end DtnVerif
