/-
  A transfer awaiting its final acknowledgement has had its END segment emitted.
-/
import DtnVerif.Lemmas.TcpclTr
namespace DtnVerif
namespace Tcpcl

def endSeg (t : Nat) (ms : List Msg) : Prop := ∃ f x d, hasEnd f = true ∧ Msg.xferSegment f t x d ∈ ms

theorem endSeg.mono {t : Nat} {ms ms' : List Msg} (hs : ∀ m ∈ ms, m ∈ ms') (h : endSeg t ms) : endSeg t ms' := by
  obtain ⟨f, x, d, h1, h2⟩ := h
  exact ⟨f, x, d, h1, hs _ h2⟩

def PEInv (e : Ep) : Prop := ∀ t ∈ e.txPendAck, endSeg t e.emitted

structure PeView where
  txPendAck : List Nat
  emitted : List Msg

def Ep.peView (e : Ep) : PeView := ⟨e.txPendAck, e.emitted⟩

theorem pe_of_view {e e' : Ep} (h : e'.peView = e.peView) (hi : PEInv e) : PEInv e' := by
  simp only [Ep.peView, PeView.mk.injEq] at h
  obtain ⟨h1, h2⟩ := h
  unfold PEInv at *
  rw [h1, h2]; exact hi

theorem pe_weaken {e e' : Ep} (hi : PEInv e) (h1 : ∀ t ∈ e'.txPendAck, t ∈ e.txPendAck ∨ endSeg t e'.emitted)
    (h2 : ∀ m ∈ e.emitted, m ∈ e'.emitted) : PEInv e' := by
  intro t ht
  rcases h1 t ht with h | h
  · exact (hi t h).mono h2
  · exact h

@[simp] theorem pe6_kaReset (e : Ep) : (kaReset e).peView = e.peView := rfl
@[simp] theorem pe6_idleReset (e : Ep) : (idleReset e).peView = e.peView := rfl

theorem pe_sent (e : Ep) (m : Msg) (hi : PEInv e) : PEInv (e.sent m) := by
  refine pe_weaken hi (fun t h => Or.inl ?_) (fun x h => ?_)
  · rw [pa_sent] at h; exact h
  · simp only [Ep.sent]; exact List.mem_append_left _ h

theorem pe_tr {k : Kind} {a b : Ep} (h : Tr k a b) (hi : PEInv a) : PEInv b := by
  cases h with
  | contact => exact pe_of_view (e := a.sent (.contact 0)) rfl (pe_sent a _ hi)
  | init =>
    exact pe_of_view (e := a.sent (.sessInit a.cfg.keepalive a.cfg.segMru sizeMax a.cfg.nodeId
      (sessionExt a.cfg))) rfl (pe_sent a _ hi)
  | term _ f r _ => exact pe_sent a _ hi
  | kaFire _ _ => exact pe_sent _ _ hi
  | segMid _ it sent f x d n _ _ =>
    exact pe_of_view (e := a.sent (.xferSegment f it.tid x d)) rfl (pe_sent a _ hi)
  | segEnd _ it sent f x d _ he =>
    -- the transfer becomes pending in the transaction that emits its END segment
    have hem : ({ a.sent (.xferSegment f it.tid x d) with
        txTmp := none, txPendAck := a.txPendAck ++ [it.tid] } : Ep).emitted = a.emitted ++ [.xferSegment f it.tid x d] := rfl
    refine pe_weaken hi (fun t h => ?_) (fun m h => by rw [hem]; exact List.mem_append_left _ h)
    rcases List.mem_append.mp h with h | h
    · exact Or.inl h
    · rw [List.mem_singleton.mp h, hem]
      exact Or.inr ⟨f, x, d, he, List.mem_append_right _ (List.mem_singleton_self _)⟩
  | reject _ r m _ => exact pe_sent _ _ hi
  | rxMid _ f t x d cur _ _ _ => exact pe_sent _ _ hi
  | rxEnd _ f t x d cur _ _ _ =>
    exact pe_of_view (e := (a.proc (.xferSegment f t x d)).sent (.xferAck f t (cur ++ d).length)) rfl
      (pe_sent _ _ hi)
  | ackEnd _ f t l _ _ _ _ => exact pe_weaken hi (fun _ h => Or.inl (List.mem_of_mem_erase h)) (fun _ h => h)
  | refused _ r t _ _ => exact pe_weaken hi (fun _ h => Or.inl (List.mem_of_mem_erase h)) (fun _ h => h)
  | _ => exact hi

theorem pe_step (e : Ep) (ev : Ev) (hi : PEInv e) : PEInv (step e ev).1 :=
  step_inv (fun _ _ _ => pe_tr) e ev hi

theorem pe_init (cfg : Cfg) : PEInv { cfg := cfg } := by
  intro t ht; simp at ht

theorem pe_run (evs : List Ev) (e : Ep) (hi : PEInv e) : PEInv (runEp e evs) :=
  run_inv pe_step evs e hi

end Tcpcl
end DtnVerif
