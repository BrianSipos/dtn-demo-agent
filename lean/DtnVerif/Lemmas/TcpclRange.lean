/-
  Numeric ranges at the D-Bus boundary: every unsigned argument ('t') of every signal the endpoint
  emits is below 2^64, against any peer, provided the user hands in bundles shorter than 2^64 octets
  and fewer than 2^64 octets have been received in all. (Lengths from ACKs are below 2^64 because they
  were decoded from eight octets; received lengths because the data was really received.)
-/
import DtnVerif.Lemmas.TcpclDecodeWF
import DtnVerif.Lemmas.TcpclOuts
namespace DtnVerif
namespace Tcpcl

def B64 : Nat := 18446744073709551616

theorem B64_eq : B64 = 2 ^ 64 := by decide

def Val.inRange : Val → Bool
  | .nat n => decide (n < B64)
  | _ => true

def Out.rangeOK : Out → Bool
  | .sig _ a => a.all Val.inRange
  | _ => true

def ranges (os : List Out) : Bool := os.all Out.rangeOK

@[simp] theorem ranges_nil : ranges [] = true := rfl
@[simp] theorem ranges_append (a b : List Out) : ranges (a ++ b) = (ranges a && ranges b) := List.all_append
@[simp] theorem ranges_cons (o : Out) (os : List Out) : ranges (o :: os) = (o.rangeOK && ranges os) := List.all_cons

theorem rangeOK_sig2 (n s : String) (x : Nat) (h : x < B64) : (Out.sig n [.str s, .nat x]).rangeOK = true := by
  simp [Out.rangeOK, Val.inRange, h]
theorem rangeOK_sig3 (n s t : String) (x : Nat) (h : x < B64) : (Out.sig n [.str s, .nat x, .str t]).rangeOK = true := by
  simp [Out.rangeOK, Val.inRange, h]
theorem rangeOK_wire (b : Bytes) : (Out.wire b).rangeOK = true := rfl

def rxW : Option (Nat × Bytes) → Nat
  | some (_, d) => d.length
  | none => 0

/-- `k`: data octets of messages already extracted from the stream and not handled yet -/
def RI (k : Nat) (e : Ep) : Prop :=
  (∀ it ∈ e.txPendStart, it.data.length < B64) ∧ (∀ p ∈ e.ackLen, p.2 < B64)
  ∧ rxW e.rxTmp + k + e.rx.buf.length ≤ e.rxBytes.length ∧ e.rxBytes.length < B64

structure RgView where
  txPendStart : List TxItem
  ackLen : List (Nat × Nat)
  rxTmp : Option (Nat × Bytes)
  rx : Rx
  rxBytes : Bytes

def Ep.rgView (e : Ep) : RgView := ⟨e.txPendStart, e.ackLen, e.rxTmp, e.rx, e.rxBytes⟩

theorem ri_of_view {k : Nat} {e e' : Ep} (h : e'.rgView = e.rgView) (hi : RI k e) : RI k e' := by
  simp only [Ep.rgView, RgView.mk.injEq] at h
  obtain ⟨h1, h2, h3, h4, h5⟩ := h
  unfold RI at *
  rw [h1, h2, h3, h4, h5]; exact hi

theorem ri_sub {k : Nat} {e e' : Ep} (hs : ∀ it ∈ e'.txPendStart, it ∈ e.txPendStart) (h2 : e'.ackLen = e.ackLen)
    (h3 : e'.rxTmp = e.rxTmp) (h4 : e'.rx = e.rx) (h5 : e'.rxBytes = e.rxBytes) (hi : RI k e) : RI k e' := by
  unfold RI at *
  rw [h2, h3, h4, h5]
  exact ⟨fun it h => hi.1 it (hs it h), hi.2⟩

theorem ri_mono {k k' : Nat} {e : Ep} (h : k ≤ k') (hi : RI k' e) : RI k e :=
  ⟨hi.1, hi.2.1, by have := hi.2.2.1; omega, hi.2.2.2⟩

@[simp] theorem rgv_kaReset (e : Ep) : (kaReset e).rgView = e.rgView := rfl
@[simp] theorem rgv_idleReset (e : Ep) : (idleReset e).rgView = e.rgView := rfl
@[simp] theorem rgv_sendMessage (e : Ep) (m : Msg) : (sendMessage e m).rgView = e.rgView := by
  rw [sendMessage_eq]; rfl
@[simp] theorem rgv_sendContact (e : Ep) : (sendContact e).rgView = e.rgView := rgv_sendMessage e (.contact 0)
@[simp] theorem rgv_sendInit (e : Ep) : (sendInit e).rgView = e.rgView :=
  rgv_sendMessage e (.sessInit e.cfg.keepalive e.cfg.segMru sizeMax e.cfg.nodeId (sessionExt e.cfg))
@[simp] theorem rgv_sendReject (e : Ep) (r : Nat) (m : Msg) : (sendReject e r m).rgView = e.rgView :=
  rgv_sendMessage e (.msgReject m.type r)
@[simp] theorem rgv_mergeSession (e : Ep) (p : PeerInit) : (mergeSession e p).rgView = e.rgView := rfl
@[simp] theorem rgv_pqTrigger (e : Ep) : (pqTrigger e).rgView = e.rgView := by rw [pqTrigger_eq]; rfl
@[simp] theorem rgv_setState (e : Ep) (s : String) : (setState e s).1.rgView = e.rgView := by
  rw [setState_fst]; rfl
@[simp] theorem rgv_sendBufferDecreased (e : Ep) : (sendBufferDecreased e).rgView = e.rgView := by
  unfold sendBufferDecreased; split
  · exact rgv_pqTrigger e
  · rfl
@[simp] theorem rgv_pullTx (e : Ep) : (pullTx e).rgView = e.rgView := by
  unfold pullTx; split
  · rw [rgv_sendBufferDecreased]; rfl
  · rfl

@[simp] theorem rg_setState (e : Ep) (s : String) : ranges (setState e s).2 = true := all_setState e s rfl

theorem ri_flush {k : Nat} (e : Ep) (hi : RI k e) : RI k (flushPendStart e).1 ∧ ranges (flushPendStart e).2 = true := by
  constructor
  · exact ri_sub (e := e) (e' := (flushPendStart e).1) (by intro it h; cases h) rfl rfl rfl rfl hi
  · unfold flushPendStart ranges
    simp [List.all_map, Out.rangeOK, Val.inRange, B64]

theorem ri_doClose {k : Nat} (e : Ep) (hi : RI k e) : RI k (doClose e).1 ∧ ranges (doClose e).2 = true := by
  unfold doClose
  split
  · exact ⟨hi, rfl⟩
  · obtain ⟨h1, h2⟩ := ri_flush e hi
    exact ⟨ri_of_view (e := (flushPendStart e).1) rfl h1, by simp [h2, Out.rangeOK]⟩

theorem ri_checkSessTerm {k : Nat} (e : Ep) (hi : RI k e) :
    RI k (checkSessTerm e).1 ∧ ranges (checkSessTerm e).2 = true := by
  unfold checkSessTerm
  split
  · exact ri_doClose e hi
  · exact ⟨hi, rfl⟩

theorem ri_sendSessTerm {k : Nat} (e : Ep) (r : Nat) (b : Bool) (hi : RI k e) :
    RI k (sendSessTerm e r b).1 ∧ ranges (sendSessTerm e r b).2 = true := by
  unfold sendSessTerm
  split
  · exact ⟨hi, by simp [Out.rangeOK]⟩
  · split
    · exact ⟨hi, by simp [Out.rangeOK]⟩
    · simp only []
      have h1 : RI k (sendMessage (setState { e with inTerm := true } "ending").1 (.sessTerm (if b then 1 else 0) r)) := by
        refine ri_of_view ?_ hi
        rw [rgv_sendMessage, rgv_setState]; rfl
      obtain ⟨h2, h3⟩ := ri_flush _ h1
      exact ⟨h2, by simp [h3]⟩

theorem ri_sendSegment {k : Nat} (e : Ep) (it : TxItem) (s : Nat) (hi : RI k e) :
    RI k (sendSegment e it s).1 ∧ ranges (sendSegment e it s).2.1 = true := by
  unfold sendSegment
  simp only []
  split
  · exact ⟨ri_of_view rfl hi, rfl⟩
  · generalize hm : sendMessage e _ = e2
    have hv : e2.rgView = e.rgView := hm ▸ rgv_sendMessage e _
    split
    · exact ⟨ri_of_view ((rgv_pqTrigger _).trans hv) hi, rfl⟩
    · exact ⟨ri_of_view hv hi, rfl⟩

theorem ri_processQueue {k : Nat} (e : Ep) (hi : RI k e) :
    RI k (processQueue e).1 ∧ ranges (processQueue e).2.1 = true := by
  unfold processQueue
  split
  · exact ri_sendSegment e _ _ hi
  · split
    · exact ⟨hi, rfl⟩
    · split
      · obtain ⟨h1, h2⟩ := ri_flush e hi
        obtain ⟨h3, h4⟩ := ri_checkSessTerm _ h1
        exact ⟨h3, by simp [h2, h4]⟩
      · split
        · exact ⟨hi, rfl⟩
        · rename_i it rest hq
          have hlen : it.data.length < B64 := hi.1 it (by rw [hq]; simp)
          have h1 : RI k { e with txPendStart := rest, txTmp := some (it, 0), nStarted := e.nStarted + 1 } :=
            ri_sub (e := e) (by intro x hx; show x ∈ e.txPendStart; rw [hq]; exact List.mem_cons_of_mem _ hx) rfl rfl rfl rfl hi
          obtain ⟨h2, h3⟩ := ri_sendSegment _ it 0 h1
          exact ⟨h2, all_cons (rangeOK_sig2 _ _ _ hlen) h3⟩

theorem ri_writeConn {k : Nat} (e : Ep) (n : Nat) (up : Bool) (hi : RI k e) :
    RI k (writeConn e n up).1 ∧ ranges (writeConn e n up).2 = true := by
  unfold writeConn
  split
  · split
    · exact ri_checkSessTerm e hi
    · exact ⟨hi, rfl⟩
  · simp only []
    split
    · exact ⟨hi, rfl⟩
    · have h1 : RI k { e with connBuf := e.connBuf.drop (min n (e.connBuf.take chunkSize).length), accepted := e.accepted ++ (e.connBuf.take chunkSize).take (min n (e.connBuf.take chunkSize).length) } :=
        ri_of_view rfl hi
      split
      · obtain ⟨h2, h3⟩ := ri_checkSessTerm _ h1
        exact ⟨h2, all_cons (rangeOK_wire _) h3⟩
      · exact ⟨h1, all_cons (rangeOK_wire _) rfl⟩

theorem ri_pump {k : Nat} (e : Ep) (n : Nat) (hi : RI k e) : RI k (pump e n).1 ∧ ranges (pump e n).2 = true := by
  unfold pump
  exact ri_writeConn _ _ _ (ri_of_view (rgv_pullTx e) hi)

theorem ri_onContact {k : Nat} (e : Ep) (hi : RI k e) : RI k (onContact e).1 ∧ ranges (onContact e).2 = true := by
  unfold onContact
  simp only []
  refine ⟨ri_of_view ?_ hi, rg_setState _ _⟩
  split <;> split <;> simp

theorem ri_onSessInit {k : Nat} (e : Ep) (p : PeerInit) (hi : RI k e) :
    RI k (onSessInit e p).1 ∧ ranges (onSessInit e p).2 = true := by
  unfold onSessInit
  simp only []
  refine ⟨ri_of_view ?_ hi, rg_setState _ _⟩
  have h (x : Ep) : Ep.rgView { x with peerInit := some p, inSess := true } = x.rgView := rfl
  rw [rgv_setState, rgv_mergeSession, h]
  split
  · exact rgv_sendInit e
  · rfl

/-- a segment accepted into the transfer `(tid, cur)`: `cur` is what `rxTmp` holds, `data` is paid for by `k` -/
theorem ri_segAccept {k : Nat} (e : Ep) (flags tid : Nat) (cur data : Bytes) (o1 : List Out)
    (hcur : rxW e.rxTmp = cur.length) (hi : RI (data.length + k) e) (ho : ranges o1 = true) :
    RI k (segAccept e flags tid cur data o1).1 ∧ ranges (segAccept e flags tid cur data o1).2 = true := by
  obtain ⟨i1, i2, i3, i4⟩ := hi
  have hlen : (cur ++ data).length < B64 := by
    rw [List.length_append]; omega
  unfold segAccept
  simp only []
  split
  · generalize hm : sendMessage e (.xferAck flags tid (cur ++ data).length) = e2
    have hv : e2.rgView = e.rgView := by rw [← hm]; rfl
    simp only [Ep.rgView, RgView.mk.injEq] at hv
    obtain ⟨v1, v2, v3, v4, v5⟩ := hv
    have h1 : RI k { e2 with rxTmp := none, rxMap := rxMapSet e2.rxMap tid (cur ++ data), rxLog := e2.rxLog ++ [(tid, cur ++ data)] } := by
      refine ⟨by show ∀ it ∈ e2.txPendStart, _; rw [v1]; exact i1, by show ∀ p ∈ e2.ackLen, _; rw [v2]; exact i2, ?_, by show e2.rxBytes.length < B64; rw [v5]; exact i4⟩
      show rxW none + k + e2.rx.buf.length ≤ e2.rxBytes.length
      rw [v4, v5]; simp only [rxW]; omega
    obtain ⟨h2, h3⟩ := ri_checkSessTerm _ h1
    exact ⟨h2, all_app (all_app ho (all_cons (rangeOK_sig3 _ _ _ _ hlen) rfl)) h3⟩
  · refine ⟨?_, all_app ho (all_cons (rangeOK_sig2 _ _ _ hlen) rfl)⟩
    refine ri_of_view (e := { e with rxTmp := some (tid, cur ++ data) }) rfl ?_
    refine ⟨i1, i2, ?_, i4⟩
    show rxW (some (tid, cur ++ data)) + k + e.rx.buf.length ≤ e.rxBytes.length
    simp only [rxW, List.length_append]; omega

theorem ri_handleMsg {k : Nat} (e : Ep) (m : Msg) (hm : m.WF) (hi : RI (dataLen m + k) e) :
    RI k (handleMsg e m).1 ∧ ranges (handleMsg e m).2 = true := by
  have down {m : Msg} (hi : RI (dataLen m + k) e) : RI k (e.proc m) :=
    ri_of_view rfl (ri_mono (Nat.le_add_left _ _) hi)
  revert hm hi
  apply handleMsg_cases e (P := fun m r => m.WF → RI (dataLen m + k) e → RI k r.1 ∧ ranges r.2 = true)
  case reject => intro m _ _ hi; exact ⟨ri_of_view (rgv_sendReject (e.proc m) rejUnexpected m) (down hi), rfl⟩
  case keepalive | msgReject => intros; exact ⟨down ‹_›, rfl⟩
  case contact => intro f _ hi; exact ri_onContact _ (down hi)
  case sessInit => intro ka sm xm node x _ hi; exact ri_onSessInit _ _ (down hi)
  case sessTerm =>
    intro f r _ _ hi
    simp only []
    have hi := down hi
    generalize e.proc (.sessTerm f r) = e1 at hi ⊢
    have h1 : RI k (if (!e1.inTerm) = true then sendSessTerm e1 r true else (e1, [])).1
        ∧ ranges (if (!e1.inTerm) = true then sendSessTerm e1 r true else (e1, [])).2 = true := by
      split
      · exact ri_sendSessTerm e1 r true hi
      · exact ⟨hi, rfl⟩
    obtain ⟨h1a, h1b⟩ := h1
    obtain ⟨h2, h3⟩ := ri_flush { (if (!e1.inTerm) = true then sendSessTerm e1 r true else (e1, [])).1 with gotTerm := true }
      (ri_of_view rfl h1a)
    obtain ⟨h4, h5⟩ := ri_checkSessTerm _ h2
    exact ⟨h4, all_app (all_app h1b h3) h5⟩
  case segStart =>
    intro f t x d _ _ _ hi
    have hi : RI (d.length + k) e := hi
    refine ri_segAccept { e.proc (.xferSegment f t x d) with rxTmp := some (t, []) } f t [] d _ rfl ?_
      (by simp [Out.rangeOK, Val.inRange])
    refine ⟨hi.1, hi.2.1, ?_, hi.2.2.2⟩
    show rxW (some (t, [])) + (d.length + k) + e.rx.buf.length ≤ e.rxBytes.length
    have := hi.2.2.1
    simp only [rxW, List.length_nil]; omega
  case segNext =>
    intro f t x d cur _ _ hr _ hi
    exact ri_segAccept (e.proc (.xferSegment f t x d)) f t cur d [] (by show rxW e.rxTmp = _; rw [hr]; rfl)
      (ri_of_view rfl hi) rfl
  case ackEnd =>
    intro f t l _ _ _ _ hw hi
    simp only []
    obtain ⟨h1, h2⟩ := ri_checkSessTerm { e.proc (.xferAck f t l) with
      txPendAck := e.txPendAck.erase t, txMap := e.txMap.erase t, successLog := e.successLog ++ [t] }
      (ri_of_view rfl (down hi))
    exact ⟨h1, all_cons (rangeOK_sig3 _ _ _ _ (by rw [B64_eq]; exact hw.2.2)) h2⟩
  case ackMid =>
    intro f t l _ _ _ hw hi
    have hl : l < B64 := by rw [B64_eq]; exact hw.2.2
    refine ⟨?_, all_cons (rangeOK_sig2 _ _ _ hl) rfl⟩
    obtain ⟨i1, i2, i3, i4⟩ := down hi
    refine ⟨i1, ?_, i3, i4⟩
    intro p hp
    show p.2 < B64
    have hp' : p ∈ (t, l) :: e.ackLen.filter (·.1 != t) := hp
    rcases List.mem_cons.mp hp' with h | h
    · rw [h]; exact hl
    · exact i2 p (List.mem_filter.mp h).1
  case refuse =>
    intro r t _ _ _ hi
    have hi := down hi
    simp only []
    have hack : ((e.ackLen.find? (·.1 == t)).map (·.2) |>.getD 0) < B64 := by
      cases hf : e.ackLen.find? (·.1 == t) with
      | none => simp [B64]
      | some p =>
        simp only [Option.map_some, Option.getD_some]
        exact hi.2.1 p (List.mem_of_find?_eq_some hf)
    have h1 : RI k { e.proc (.xferRefuse r t) with
        txMap := e.txMap.erase t, txPendAck := e.txPendAck.erase t, txPendStart := e.txPendStart.filter (·.tid != t) } :=
      ri_sub (e := e.proc (.xferRefuse r t)) (by intro x hx; exact (List.mem_filter.mp hx).1) rfl rfl rfl rfl hi
    have h2 : ∀ e1 : Ep, RI k e1 → RI k (match e1.txTmp with
        | some (it, _) => if it.tid == t then pqTrigger { e1 with txTmp := none } else e1
        | none => e1) := by
      intro e1 h
      split
      · split
        · exact ri_of_view (by rw [rgv_pqTrigger]; rfl) h
        · exact h
      · exact h
    obtain ⟨h3, h4⟩ := ri_checkSessTerm _ (h2 _ h1)
    exact ⟨h3, all_cons (rangeOK_sig3 _ _ _ _ hack) h4⟩

theorem ri_handleMsgs (ms : List Msg) (e : Ep) (hw : ∀ m ∈ ms, m.WF) (hi : RI (sumData ms) e) :
    RI 0 (handleMsgs e ms).1 ∧ ranges (handleMsgs e ms).2 = true := by
  induction ms generalizing e with
  | nil => exact ⟨hi, rfl⟩
  | cons m ms ih =>
    have hdown0 : RI 0 e := ri_mono (Nat.zero_le _) hi
    unfold handleMsgs
    split
    · exact ⟨hdown0, rfl⟩
    · simp only []
      have hsum : sumData (m :: ms) = dataLen m + sumData ms := by simp [sumData]
      rw [hsum] at hi
      obtain ⟨h1, h2⟩ := ri_handleMsg { e with rxMore := !ms.isEmpty || e.rx.dead } m (hw m (by simp)) (ri_of_view rfl hi)
      obtain ⟨h3, h4⟩ := ih _ (fun x hx => hw x (List.mem_cons_of_mem _ hx)) h1
      exact ⟨h3, by simp [h2, h4]⟩

theorem ri_recvRaw (e : Ep) (c : Bytes) (hi : RI 0 e) (hb : e.rxBytes.length + c.length < B64) :
    RI 0 (recvRaw e c).1 ∧ ranges (recvRaw e c).2 = true := by
  obtain ⟨hw, hl⟩ := feed_wf e.rx c
  have h0 : RI (sumData (feed e.rx c).2) (rxEntry e c) := by
    obtain ⟨i1, i2, i3, i4⟩ := hi
    refine ⟨i1, i2, ?_, ?_⟩
    · show rxW e.rxTmp + sumData (feed e.rx c).2 + (feed e.rx c).1.buf.length ≤ (e.rxBytes ++ c).length
      rw [List.length_append]; omega
    · show (e.rxBytes ++ c).length < B64
      rw [List.length_append]; exact hb
  obtain ⟨h1, h2⟩ := ri_handleMsgs (feed e.rx c).2 _ hw h0
  unfold recvRaw
  simp only []
  have h3 : RI 0 { (handleMsgs (rxEntry e c) (feed e.rx c).2).1 with rxMore := false } := ri_of_view rfl h1
  split
  · obtain ⟨h4, h5⟩ := ri_doClose _ h3
    exact ⟨h4, by simp [h2, h5]⟩
  · exact ⟨h3, h2⟩

theorem ri_step (e : Ep) (ev : Ev) (hi : RI 0 e) : (∀ d, ev = .send d → d.length < B64) →
    (∀ c, ev = .rx c → e.rxBytes.length + c.length < B64) → RI 0 (step e ev).1 ∧ ranges (step e ev).2 = true := by
  apply step_cases e (P := fun ev r => (∀ d, ev = .send d → d.length < B64) →
    (∀ c, ev = .rx c → e.rxBytes.length + c.length < B64) → RI 0 r.1 ∧ ranges r.2 = true)
  case idle | query => intros; exact ⟨hi, rfl⟩
  case advance | pqClosed | modulate => intros; exact ⟨ri_of_view rfl hi, rfl⟩
  case pop =>
    intro t _ _
    unfold popRx
    split
    · exact ⟨ri_of_view rfl hi, rfl⟩
    · exact ⟨hi, rfl⟩
  case start =>
    intros
    refine ⟨ri_of_view ?_ hi, rg_setState _ _⟩
    rw [rgv_setState]
    split <;> rfl
  case send =>
    intro _ d hsend _
    refine ⟨?_, rfl⟩
    refine ri_of_view (e := { e with txNextId := e.txNextId + 1, txPendStart := e.txPendStart ++ [⟨e.txNextId, d⟩], txMap := e.txMap ++ [e.txNextId], sendLog := e.sendLog ++ [⟨e.txNextId, d⟩] }) (by rw [rgv_pqTrigger]) ?_
    obtain ⟨i1, i2, i3, i4⟩ := hi
    refine ⟨?_, i2, i3, i4⟩
    intro it hit
    have hit' : it ∈ e.txPendStart ++ [⟨e.txNextId, d⟩] := hit
    rcases List.mem_append.mp hit' with h | h
    · exact i1 it h
    · rw [List.mem_singleton.mp h]; exact hsend d rfl
  case terminate => intro _ r _ _; exact ri_sendSessTerm e r false hi
  case close | rxEof => intros; exact ri_doClose e hi
  case procQueue =>
    intros
    obtain ⟨h1, h2⟩ := ri_processQueue { e with pqPend := false } (ri_of_view rfl hi)
    exact ⟨ri_of_view rfl h1, h2⟩
  case pump =>
    intro _ _ n _ _
    obtain ⟨h1, h2⟩ := ri_pump { e with txIdle := false } n (ri_of_view rfl hi)
    exact ⟨ri_of_view rfl h1, h2⟩
  case rx => intro _ c _ hrx; exact ri_recvRaw e c hi (hrx c rfl)
  case kaFire => intros; exact ⟨ri_of_view (by rw [rgv_sendMessage]; rfl) hi, rfl⟩
  case idleClose => intros; exact ri_doClose _ (ri_of_view rfl hi)
  case idleTerm => intros; exact ri_sendSessTerm _ 1 false (ri_of_view rfl hi)

theorem ri_init (cfg : Cfg) : RI 0 { cfg := cfg } := by
  refine ⟨?_, ?_, ?_, (by show (0 : Nat) < B64; decide)⟩
  · intro it h; exact absurd h (by simp)
  · intro p h; exact absurd h (by simp)
  · show rxW none + 0 + 0 ≤ 0
    decide

/-- the hypotheses of a run: bundles handed in are shorter than 2^64 octets, and at every read the
    octets received so far plus the new ones stay below 2^64 -/
def RunOK : Ep → List Ev → Prop
  | _, [] => True
  | e, ev :: evs =>
    (∀ d, ev = .send d → d.length < B64) ∧ (∀ c, ev = .rx c → e.rxBytes.length + c.length < B64)
    ∧ RunOK (step e ev).1 evs

theorem ri_run (evs : List Ev) (e : Ep) (hi : RI 0 e) (hok : RunOK e evs) :
    ∀ os ∈ (run e evs).2, ranges os = true := by
  refine run_outs (J := fun e evs => RI 0 e ∧ RunOK e evs) ?_ evs e ⟨hi, hok⟩
  intro e ev evs ⟨hi, hok⟩
  obtain ⟨h1, h2, h3⟩ := hok
  obtain ⟨s1, s2⟩ := ri_step e ev hi h1 h2
  exact ⟨⟨s1, h3⟩, s2⟩

end Tcpcl
end DtnVerif
