/-
  The socket write log only ever grows: `accepted` changes only in `writeConn`, by appending.
-/
import DtnVerif.Lemmas.TcpclTr
namespace DtnVerif
namespace Tcpcl

@[simp] theorem acc_kaReset (e : Ep) : (kaReset e).accepted = e.accepted := rfl
@[simp] theorem acc_idleReset (e : Ep) : (idleReset e).accepted = e.accepted := rfl
@[simp] theorem acc_sendMessage (e : Ep) (m : Msg) : (sendMessage e m).accepted = e.accepted := by
  simp only [sendMessage, sendReady, kaReset, idleReset]
@[simp] theorem acc_flush (e : Ep) : (flushPendStart e).1.accepted = e.accepted := rfl
@[simp] theorem acc_mergeSession (e : Ep) (p : PeerInit) : (mergeSession e p).accepted = e.accepted := rfl
@[simp] theorem acc_sendContact (e : Ep) : (sendContact e).accepted = e.accepted := acc_sendMessage e (.contact 0)
@[simp] theorem acc_sendInit (e : Ep) : (sendInit e).accepted = e.accepted :=
  acc_sendMessage e (.sessInit e.cfg.keepalive e.cfg.segMru sizeMax e.cfg.nodeId (sessionExt e.cfg))
@[simp] theorem acc_sendReject (e : Ep) (r : Nat) (m : Msg) : (sendReject e r m).accepted = e.accepted :=
  acc_sendMessage e (.msgReject m.type r)

theorem accepted_tr {k : Kind} {a b : Ep} (h : Tr k a b) :
    b.accepted = a.accepted ∨ k = .pump ∧ ∃ l, b.accepted = a.accepted ++ l := by
  cases h with
  | write _ n => exact .inr ⟨rfl, _, rfl⟩
  | _ => exact .inl rfl

theorem accepted_prefix_step (e : Ep) (ev : Ev) : e.accepted <+: (step e ev).1.accepted := by
  refine step_inv (P := fun e' => e.accepted <+: e'.accepted) ?_ e ev (List.prefix_refl _)
  intro _ a b h hi
  rcases accepted_tr h with h | ⟨_, l, h⟩
  · rw [h]; exact hi
  · rw [h]; exact hi.trans (List.prefix_append _ _)

theorem accepted_step_nonpump (e : Ep) (ev : Ev) (h : ∀ n, ev ≠ .pump n) : (step e ev).1.accepted = e.accepted := by
  refine step_inv_nonpump (P := fun e' => e'.accepted = e.accepted) ?_ e ev h rfl
  intro k a b t hk hi
  exact ((accepted_tr t).resolve_right fun hp => hk hp.1).trans hi

end Tcpcl
end DtnVerif
