/-
  Queue bookkeeping of the TCPCL endpoint against the signals it emits.

  * `QInv`  — `_tx_map` holds exactly the transfers in flight (unstarted, being segmented, awaiting
              the final ACK), each once, all older than the next transfer id.
  * `TxRel` — what one operation does to `_tx_map` is exactly what its `send_bundle_finished` signals say:
              the ids signalled are distinct, were in the map, and are precisely the ids removed.
  * `RxRel` — what one operation does to `_rx_map` and the receive log is exactly what its
              `recv_bundle_finished` signals say.
  Every function of the endpoint model, and every event except the user's `send` and `pop`, satisfies
  `QStep` (= preserves `QInv`, meets both relations). `send` hands out a fresh id and `pop` takes from
  `_rx_map` without a signal: these two are described field by field (`q_step_send_fields`, `qv_tx_popRx`).
-/
import DtnVerif.Lemmas.TcpclOuts
namespace DtnVerif
namespace Tcpcl

def isSig (n : String) : Out → Bool
  | .sig m _ => m == n
  | _ => false

def txFin (os : List Out) : List Out := os.filter (isSig "send_bundle_finished")
def rxFin (os : List Out) : List Out := os.filter (isSig "recv_bundle_finished")

def txSig (f : Nat × Nat × String) : Out :=
  .sig "send_bundle_finished" [.str (natStr f.1), .nat f.2.1, .str f.2.2]
def rxSig (p : Nat × Bytes) : Out :=
  .sig "recv_bundle_finished" [.str (natStr p.1), .nat p.2.length, .str "success"]

@[simp] theorem filter_const_true {α} (l : List α) : l.filter (fun _ => true) = l :=
  List.filter_eq_self.mpr (by simp)

@[simp] theorem txFin_nil : txFin [] = [] := rfl
@[simp] theorem rxFin_nil : rxFin [] = [] := rfl
@[simp] theorem txFin_append (a b : List Out) : txFin (a ++ b) = txFin a ++ txFin b := by simp [txFin]
@[simp] theorem rxFin_append (a b : List Out) : rxFin (a ++ b) = rxFin a ++ rxFin b := by simp [rxFin]

def tmpTids (t : Option (TxItem × Nat)) : List Nat :=
  match t with
  | some (it, _) => [it.tid]
  | none => []

def Ep.inflight (e : Ep) : List Nat := e.txPendStart.map (·.tid) ++ (tmpTids e.txTmp ++ e.txPendAck)

structure QInv (e : Ep) : Prop where
  fl : e.inflight.Nodup
  nd : e.txMap.Nodup
  iff : ∀ t, t ∈ e.txMap ↔ t ∈ e.inflight
  fresh : ∀ t ∈ e.txMap, t < e.txNextId

def TxRel (e : Ep) (r : Res) : Prop :=
  ∃ fin : List (Nat × Nat × String),
    txFin r.2 = fin.map txSig ∧
    r.1.txMap = e.txMap.filter (fun t => !(fin.map (·.1)).contains t) ∧
    (∀ t ∈ fin.map (·.1), t ∈ e.txMap) ∧ (fin.map (·.1)).Nodup ∧ r.1.txNextId = e.txNextId

def rxIns (m : List (Nat × Bytes)) (new : List (Nat × Bytes)) : List (Nat × Bytes) :=
  new.foldl (fun m p => rxMapSet m p.1 p.2) m

def RxRel (e : Ep) (r : Res) : Prop :=
  ∃ new : List (Nat × Bytes),
    rxFin r.2 = new.map rxSig ∧ r.1.rxLog = e.rxLog ++ new ∧ r.1.rxMap = rxIns e.rxMap new

def QStep (e : Ep) (r : Res) : Prop := QInv e → QInv r.1 ∧ TxRel e r ∧ RxRel e r

def Ep.qv (e : Ep) := (e.rxMap, e.rxLog, e.txMap, e.txPendStart, e.txTmp, e.txPendAck, e.txNextId)

theorem Ep.qv_eq {e e' : Ep} : e'.qv = e.qv ↔ e'.rxMap = e.rxMap ∧ e'.rxLog = e.rxLog ∧ e'.txMap = e.txMap ∧
    e'.txPendStart = e.txPendStart ∧ e'.txTmp = e.txTmp ∧ e'.txPendAck = e.txPendAck ∧ e'.txNextId = e.txNextId := by
  simp only [Ep.qv, Prod.mk.injEq]

theorem QInv.of_qv {e e' : Ep} (h : e'.qv = e.qv) (hi : QInv e) : QInv e' := by
  obtain ⟨_, _, h3, h4, h5, h6, h7⟩ := Ep.qv_eq.mp h
  have hf : e'.inflight = e.inflight := by simp [Ep.inflight, h4, h5, h6]
  exact ⟨hf ▸ hi.fl, h3 ▸ hi.nd, by rw [h3, hf]; exact hi.iff, by rw [h3, h7]; exact hi.fresh⟩

theorem QStep.refl_of_qv {e : Ep} {r : Res} (h : r.1.qv = e.qv) (h1 : txFin r.2 = []) (h2 : rxFin r.2 = []) :
    QStep e r := by
  intro hi
  obtain ⟨g1, g2, g3, _, _, _, g7⟩ := Ep.qv_eq.mp h
  exact ⟨hi.of_qv h, ⟨[], by simp [h1, g3, g7, filter_const_true]⟩, ⟨[], by simp [h2, g1, g2, rxIns]⟩⟩

theorem QStep.congr_left {e e' : Ep} {r : Res} (h : e'.qv = e.qv) (hs : QStep e' r) : QStep e r := by
  intro hi
  obtain ⟨h1, ⟨fin, hf⟩, ⟨new, hn⟩⟩ := hs (hi.of_qv h)
  obtain ⟨g1, g2, g3, _, _, _, g7⟩ := Ep.qv_eq.mp h
  exact ⟨h1, ⟨fin, by rw [← g3, ← g7]; exact hf⟩, ⟨new, by rw [← g1, ← g2]; exact hn⟩⟩

theorem QStep.congr_right {e : Ep} {r r' : Res} (h : r'.1.qv = r.1.qv) (ho : r'.2 = r.2) (hs : QStep e r) :
    QStep e r' := by
  intro hi
  obtain ⟨h1, ⟨fin, hf⟩, ⟨new, hn⟩⟩ := hs hi
  obtain ⟨g1, g2, g3, _, _, _, g7⟩ := Ep.qv_eq.mp h
  exact ⟨h1.of_qv h, ⟨fin, by rw [ho, g3, g7]; exact hf⟩, ⟨new, by rw [ho, g1, g2]; exact hn⟩⟩

theorem rxIns_append (m : List (Nat × Bytes)) (a b : List (Nat × Bytes)) :
    rxIns m (a ++ b) = rxIns (rxIns m a) b := by simp [rxIns, List.foldl_append]

theorem QStep.comp {e : Ep} {r1 r2 : Res} (h1 : QStep e r1) (h2 : QStep r1.1 r2) :
    QStep e (r2.1, r1.2 ++ r2.2) := by
  intro hi
  obtain ⟨i1, ⟨f1, a1, a2, a3, a4, a5⟩, ⟨n1, b1, b2, b3⟩⟩ := h1 hi
  obtain ⟨i2, ⟨f2, c1, c2, c3, c4, c5⟩, ⟨n2, d1, d2, d3⟩⟩ := h2 i1
  refine ⟨i2, ⟨f1 ++ f2, ?_, ?_, ?_, ?_, ?_⟩, ⟨n1 ++ n2, ?_, ?_, ?_⟩⟩
  · simp [a1, c1]
  · show r2.1.txMap = _
    rw [c2, a2, List.filter_filter]
    congr 1; funext t
    simp only [List.map_append, List.contains_append, Bool.not_or, Bool.and_comm]
  · intro t ht
    simp only [List.map_append, List.mem_append] at ht
    rcases ht with ht | ht
    · exact a3 t ht
    · have := c3 t ht
      rw [a2] at this
      exact (List.mem_filter.mp this).1
  · simp only [List.map_append]
    refine List.nodup_append.mpr ⟨a4, c4, ?_⟩
    intro x hx y hy hxy
    subst hxy
    have := c3 x hy
    rw [a2] at this
    have hn := (List.mem_filter.mp this).2
    simp at hn
    simp at hx
    obtain ⟨a, b, hab⟩ := hx
    exact hn a b hab
  · show r2.1.txNextId = _
    rw [c5, a5]
  · simp [b1, d1]
  · show r2.1.rxLog = _
    rw [d2, b2, List.append_assoc]
  · show r2.1.rxMap = _
    rw [d3, b3, rxIns_append]

theorem QStep.id (e : Ep) : QStep e (e, []) := QStep.refl_of_qv rfl rfl rfl

@[simp] theorem qv_kaReset (e : Ep) : (kaReset e).qv = e.qv := rfl
@[simp] theorem qv_idleReset (e : Ep) : (idleReset e).qv = e.qv := rfl
@[simp] theorem qv_sendMessage (e : Ep) (m : Msg) : (sendMessage e m).qv = e.qv := by rw [sendMessage_eq]; rfl
@[simp] theorem qv_pqTrigger (e : Ep) : (pqTrigger e).qv = e.qv := by rw [pqTrigger_eq]; rfl
@[simp] theorem qv_sendReject (e : Ep) (r : Nat) (m : Msg) : (sendReject e r m).qv = e.qv :=
  qv_sendMessage e (.msgReject m.type r)
@[simp] theorem qv_mergeSession (e : Ep) (p : PeerInit) : (mergeSession e p).qv = e.qv := rfl
@[simp] theorem qv_sendContact (e : Ep) : (sendContact e).qv = e.qv := qv_sendMessage e (.contact 0)
@[simp] theorem qv_sendInit (e : Ep) : (sendInit e).qv = e.qv :=
  qv_sendMessage e (.sessInit e.cfg.keepalive e.cfg.segMru sizeMax e.cfg.nodeId (sessionExt e.cfg))
@[simp] theorem qv_sendBufferDecreased (e : Ep) : (sendBufferDecreased e).qv = e.qv := by
  unfold sendBufferDecreased; split <;> simp
@[simp] theorem qv_pullTx (e : Ep) : (pullTx e).qv = e.qv := by
  unfold pullTx; split
  · simp; rfl
  · rfl
@[simp] theorem qv_setState (e : Ep) (s : String) : (setState e s).1.qv = e.qv := by rw [setState_fst]; rfl

@[simp] theorem txFin_setState (e : Ep) (s : String) : txFin (setState e s).2 = [] := by
  unfold setState; split <;> simp [txFin, isSig]
@[simp] theorem rxFin_setState (e : Ep) (s : String) : rxFin (setState e s).2 = [] := by
  unfold setState; split <;> simp [rxFin, isSig]

theorem q_setState (e : Ep) (s : String) : QStep e (setState e s) :=
  QStep.refl_of_qv (qv_setState e s) (txFin_setState e s) (rxFin_setState e s)

theorem q_flush (e : Ep) : QStep e (flushPendStart e) := by
  intro hi
  have hfl := List.nodup_append.mp hi.fl
  refine ⟨⟨?_, ?_, ?_, ?_⟩, ⟨e.txPendStart.map (fun it => (it.tid, 0, "session terminating")), ?_, ?_, ?_, ?_, rfl⟩,
    ⟨[], ?_, ?_, ?_⟩⟩
  · simp only [flushPendStart, Ep.inflight, List.map_nil, List.nil_append]
    exact hfl.2.1
  · exact hi.nd.filter _
  · intro t
    simp only [flushPendStart, Ep.inflight, List.map_nil, List.nil_append, List.mem_filter]
    have := hi.iff t
    simp only [Ep.inflight, List.mem_append, List.mem_map] at this
    constructor
    · rintro ⟨h1, h2⟩
      rcases this.mp h1 with ⟨it, hit, rfl⟩ | h
      · simp at h2
        exact absurd rfl (h2 it hit)
      · simpa using h
    · intro h
      refine ⟨this.mpr (Or.inr (by simpa using h)), ?_⟩
      simp only [Bool.not_eq_true', List.any_eq_false, beq_iff_eq]
      intro it hit heq
      exact hfl.2.2 it.tid (by simp; exact ⟨it, hit, rfl⟩) t (by simpa using h) heq
  · intro t ht
    exact hi.fresh t (List.mem_filter.mp ht).1
  · simp [flushPendStart, txFin, isSig, List.filter_map, txSig, Function.comp_def, filter_const_true]
  · simp only [flushPendStart, List.map_map]
    congr 1; funext t
    rw [Bool.eq_iff_iff]
    simp only [Bool.not_eq_true', List.any_eq_false, beq_iff_eq, List.contains_eq_mem,
      decide_eq_false_iff_not, List.mem_map, Function.comp, not_exists, not_and]
  · intro t ht
    simp only [List.map_map, List.mem_map, Function.comp] at ht
    obtain ⟨it, hit, rfl⟩ := ht
    exact (hi.iff it.tid).mpr (by simp [Ep.inflight]; exact Or.inl ⟨it, hit, rfl⟩)
  · simp only [List.map_map, Function.comp_def]
    exact hfl.1
  · simp [flushPendStart, rxFin, isSig, List.filter_map, Function.comp_def]
  · simp [flushPendStart]
  · simp [flushPendStart, rxIns]

theorem q_doClose (e : Ep) : QStep e (doClose e) := by
  unfold doClose
  split
  · exact QStep.id e
  · refine QStep.congr_right ?_ ?_ (QStep.comp (q_flush e)
      (QStep.refl_of_qv (r := ((flushPendStart e).1, [Out.closed])) rfl rfl rfl))
    · rfl
    · rfl

theorem q_checkSessTerm (e : Ep) : QStep e (checkSessTerm e) := by
  unfold checkSessTerm; split
  · exact q_doClose e
  · exact QStep.id e

theorem q_sendSessTerm (e : Ep) (r : Nat) (b : Bool) : QStep e (sendSessTerm e r b) := by
  unfold sendSessTerm
  split
  · exact QStep.refl_of_qv rfl rfl rfl
  · split
    · exact QStep.refl_of_qv rfl rfl rfl
    · refine QStep.congr_left (e' := { e with inTerm := true }) rfl ?_
      generalize ({ e with inTerm := true } : Ep) = e1
      refine QStep.comp (r1 := (sendMessage (setState e1 "ending").1 (.sessTerm (if b then 1 else 0) r),
        (setState e1 "ending").2)) ?_ (q_flush _)
      exact QStep.refl_of_qv ((qv_sendMessage _ _).trans (qv_setState e1 "ending"))
        (txFin_setState e1 "ending") (rxFin_setState e1 "ending")

theorem QStep.perm {e e' : Ep} {o : List Out} (h1 : e'.rxMap = e.rxMap) (h2 : e'.rxLog = e.rxLog)
    (h3 : e'.txMap = e.txMap) (h4 : e'.txNextId = e.txNextId) (hp : e'.inflight.Perm e.inflight)
    (o1 : txFin o = []) (o2 : rxFin o = []) : QStep e (e', o) := by
  intro hi
  refine ⟨⟨hp.nodup_iff.mpr hi.fl, h3 ▸ hi.nd, ?_, ?_⟩, ⟨[], ?_⟩, ⟨[], ?_⟩⟩
  · intro t; rw [h3, hp.mem_iff]; exact hi.iff t
  · rw [h3, h4]; exact hi.fresh
  · simp [o1, h3, h4]
  · simp [o2, h1, h2, rxIns]

theorem QStep.remove {e e' : Ep} {o : List Out} (tid len : Nat) (txt : String)
    (h1 : e'.rxMap = e.rxMap) (h2 : e'.rxLog = e.rxLog)
    (h3 : e'.txMap = e.txMap.erase tid) (h4 : e'.txNextId = e.txNextId) (hm : tid ∈ e.txMap)
    (hp : e'.inflight.Perm (e.inflight.filter (· != tid)))
    (o1 : txFin o = [txSig (tid, len, txt)]) (o2 : rxFin o = []) : QStep e (e', o) := by
  intro hi
  have he : e.txMap.erase tid = e.txMap.filter (· != tid) := hi.nd.erase_eq_filter tid
  refine ⟨⟨hp.nodup_iff.mpr (hi.fl.filter _), ?_, ?_, ?_⟩, ⟨[(tid, len, txt)], ?_, ?_, ?_, ?_, ?_⟩, ⟨[], ?_⟩⟩
  · rw [h3]; exact hi.nd.erase _
  · intro t
    rw [h3, he, hp.mem_iff, List.mem_filter, List.mem_filter, hi.iff t]
  · intro t ht
    rw [h3] at ht
    rw [h4]; exact hi.fresh t (List.mem_of_mem_erase ht)
  · simp [o1]
  · show e'.txMap = _
    rw [h3, he]
    congr 1; funext t
    by_cases h : t = tid <;> simp [h]
  · simpa using hm
  · simp
  · exact h4
  · simp [o2, h1, h2, rxIns]

theorem QStep.rxAdd {e e' : Ep} {o : List Out} (tid : Nat) (d : Bytes)
    (h1 : e'.rxMap = rxMapSet e.rxMap tid d) (h2 : e'.rxLog = e.rxLog ++ [(tid, d)])
    (h3 : e'.txMap = e.txMap) (h4 : e'.txNextId = e.txNextId) (hp : e'.inflight = e.inflight)
    (o1 : txFin o = []) (o2 : rxFin o = [rxSig (tid, d)]) : QStep e (e', o) := by
  intro hi
  refine ⟨⟨hp ▸ hi.fl, h3 ▸ hi.nd, ?_, ?_⟩, ⟨[], ?_⟩, ⟨[(tid, d)], ?_⟩⟩
  · intro t; rw [h3, hp]; exact hi.iff t
  · rw [h3, h4]; exact hi.fresh
  · simp [o1, h3, h4]
  · simp [o2, h1, h2, rxIns]

@[simp] theorem ss_rxMap (e : Ep) (s : String) : (setState e s).1.rxMap = e.rxMap := by rw [setState_fst]
@[simp] theorem ss_rxLog (e : Ep) (s : String) : (setState e s).1.rxLog = e.rxLog := by rw [setState_fst]
@[simp] theorem ss_txMap (e : Ep) (s : String) : (setState e s).1.txMap = e.txMap := by rw [setState_fst]
@[simp] theorem ss_txPendStart (e : Ep) (s : String) : (setState e s).1.txPendStart = e.txPendStart := by rw [setState_fst]
@[simp] theorem ss_txTmp (e : Ep) (s : String) : (setState e s).1.txTmp = e.txTmp := by rw [setState_fst]
@[simp] theorem ss_txPendAck (e : Ep) (s : String) : (setState e s).1.txPendAck = e.txPendAck := by rw [setState_fst]
@[simp] theorem ss_txNextId (e : Ep) (s : String) : (setState e s).1.txNextId = e.txNextId := by rw [setState_fst]
@[simp] theorem inflight_pqTrigger (e : Ep) : (pqTrigger e).inflight = e.inflight := by rw [pqTrigger_eq]; rfl

theorem q_sendSegment (e : Ep) (it : TxItem) (s : Nat) (ht : tmpTids e.txTmp = [it.tid]) :
    QStep e ((sendSegment e it s).1, (sendSegment e it s).2.1) := by
  unfold sendSegment
  simp only []
  split
  · refine QStep.perm rfl rfl rfl rfl ?_ rfl rfl
    simp only [Ep.inflight, ht]; simp [tmpTids]
  · generalize hm : sendMessage e _ = e2
    obtain ⟨v1, v2, v3, v4, v5, v6, v7⟩ := Ep.qv_eq.mp (hm ▸ qv_sendMessage e _ : e2.qv = e.qv)
    split
    · rw [pqTrigger_eq]
      refine QStep.perm v1 v2 v3 v7 ?_ rfl rfl
      simp only [Ep.inflight, v4, v6, ht]
      exact List.Perm.append_left _ (List.perm_append_comm (l₁ := e.txPendAck))
    · refine QStep.perm v1 v2 v3 v7 ?_ rfl rfl
      simp only [Ep.inflight, v4, v6, ht]
      exact List.Perm.refl _

theorem q_processQueue (e : Ep) : QStep e ((processQueue e).1, (processQueue e).2.1) := by
  unfold processQueue
  split
  · rename_i it sent h
    exact q_sendSegment e it sent (by simp [h, tmpTids])
  · rename_i h
    split
    · exact QStep.id e
    · split
      · exact QStep.comp (q_flush e) (q_checkSessTerm _)
      · split
        · exact QStep.id e
        · rename_i it rest hps
          simp only []
          refine QStep.comp (r1 := (_, [_])) (r2 := ((sendSegment _ it 0).1, (sendSegment _ it 0).2.1)) ?_
            (q_sendSegment _ it 0 (by simp [tmpTids]))
          refine QStep.perm rfl rfl rfl rfl ?_ rfl rfl
          simp only [Ep.inflight, h, hps]
          simp only [tmpTids, List.map_cons, List.nil_append, List.cons_append]
          exact List.perm_middle

theorem q_writeConn (e : Ep) (n : Nat) (up : Bool) : QStep e (writeConn e n up) := by
  unfold writeConn
  split
  · split
    · exact q_checkSessTerm e
    · exact QStep.id e
  · simp only []
    split
    · exact QStep.id e
    · split
      · refine QStep.comp (r1 := (_, [_])) ?_ (q_checkSessTerm _)
        exact QStep.refl_of_qv rfl rfl rfl
      · exact QStep.refl_of_qv rfl rfl rfl

theorem q_pump (e : Ep) (n : Nat) : QStep e (pump e n) := by
  unfold pump
  exact QStep.congr_left (qv_pullTx e) (q_writeConn (pullTx e) n (upEmpty e))

theorem q_onContact (e : Ep) : QStep e (onContact e) := by
  unfold onContact
  simp only []
  refine QStep.refl_of_qv ?_ ?_ ?_
  · cases e.cfg.passive <;> simp
  · simp
  · simp

theorem q_onSessInit (e : Ep) (p : PeerInit) : QStep e (onSessInit e p) := by
  unfold onSessInit
  refine QStep.refl_of_qv ?_ (txFin_setState _ _) (rxFin_setState _ _)
  have h (x : Ep) : Ep.qv { x with peerInit := some p, inSess := true } = x.qv := rfl
  rw [qv_setState, qv_mergeSession, h]
  split
  · exact qv_sendInit e
  · rfl

theorem q_segAccept (e : Ep) (f t : Nat) (c d : Bytes) (o : List Out) (ho1 : txFin o = []) (ho2 : rxFin o = []) :
    QStep e (segAccept e f t c d o) := by
  unfold segAccept
  simp only []
  split
  · refine QStep.congr_left (qv_sendMessage e (.xferAck f t (c ++ d).length)) ?_
    generalize sendMessage e (.xferAck f t (c ++ d).length) = e2
    refine QStep.comp (r1 := (_, o ++ [_])) ?_ (q_checkSessTerm _)
    refine QStep.rxAdd t (c ++ d) rfl rfl rfl rfl rfl ?_ ?_
    · rw [txFin_append, ho1]; simp [txFin, isSig]
    · rw [rxFin_append, ho2]; simp [rxFin, isSig, rxSig]
  · refine QStep.refl_of_qv ((qv_sendMessage _ (.xferAck f t (c ++ d).length)).trans rfl) ?_ ?_
    · rw [txFin_append, ho1]; simp [txFin, isSig]
    · rw [rxFin_append, ho2]; simp [rxFin, isSig]

theorem filter_ne_self_of_not_mem {l : List Nat} {a : Nat} (h : a ∉ l) : l.filter (· != a) = l := by
  apply List.filter_eq_self.mpr
  intro x hx
  simp only [bne_iff_ne, ne_eq]
  intro hxa; exact h (hxa ▸ hx)

theorem q_handleMsg (e : Ep) (m : Msg) : QStep e (handleMsg e m) := by
  refine QStep.congr_left (e' := e.proc m) rfl ?_
  apply handleMsg_cases e (P := fun m r => QStep (e.proc m) r)
  case reject => intro m _; exact QStep.refl_of_qv (qv_sendReject (e.proc m) rejUnexpected m) rfl rfl
  case keepalive | msgReject => intros; exact QStep.id _
  case contact => intro f; exact q_onContact _
  case sessInit => intros; exact q_onSessInit _ _
  case sessTerm =>
    intro f r _
    simp only []
    generalize e.proc (.sessTerm f r) = e1
    have h1 : QStep e1 (if (!e1.inTerm) = true then sendSessTerm e1 r true else (e1, [])) := by
      split
      · exact q_sendSessTerm e1 r true
      · exact QStep.id e1
    exact QStep.comp (QStep.comp h1 (QStep.congr_left
      (e' := { (if (!e1.inTerm) = true then sendSessTerm e1 r true else (e1, [])).1 with gotTerm := true }) rfl (q_flush _)))
      (q_checkSessTerm _)
  case segStart =>
    intro f t x d _ _
    exact QStep.congr_left (e' := { e.proc (.xferSegment f t x d) with rxTmp := some (t, []) }) rfl
      (q_segAccept _ f t [] d _ (by simp [txFin, isSig]) (by simp [rxFin, isSig]))
  case segNext => intro f t x d cur _ _ _; exact q_segAccept _ f t cur d [] rfl rfl
  case ackEnd =>
    intro f t l _ hm _ hta
    simp only []
    refine QStep.comp (r1 := (_, [_])) ?_ (q_checkSessTerm _)
    intro hi
    have hfl := hi.fl
    simp only [Ep.inflight, Ep.proc, List.nodup_append] at hfl
    refine QStep.remove t l "success" rfl rfl rfl rfl hm ?_ ?_ rfl hi
    · simp only [Ep.inflight, Ep.proc, List.filter_append]
      rw [filter_ne_self_of_not_mem (l := e.txPendStart.map (·.tid)), filter_ne_self_of_not_mem (l := tmpTids e.txTmp),
        hfl.2.1.2.1.erase_eq_filter]
      · intro h; exact hfl.2.1.2.2 t h t hta rfl
      · intro h; exact hfl.2.2 t h t (by simp [hta]) rfl
    · simp [txFin, isSig, txSig]
  case ackMid => intros; exact QStep.refl_of_qv rfl (by simp [txFin, isSig]) (by simp [rxFin, isSig])
  case refuse =>
    intro r t _ hm
    simp only []
    refine QStep.comp (r1 := (_, [_])) ?_ (q_checkSessTerm _)
    intro hi
    have hfl := hi.fl
    simp only [Ep.inflight, Ep.proc, List.nodup_append] at hfl
    refine QStep.remove t ((e.ackLen.find? (·.1 == t)).map (·.2) |>.getD 0) ("refused with code " ++ natStr r)
      ?_ ?_ ?_ ?_ hm ?_ ?_ ?_ hi
    · split <;> (try split) <;> simp [pqTrigger_eq, Ep.proc]
    · split <;> (try split) <;> simp [pqTrigger_eq, Ep.proc]
    · split <;> (try split) <;> simp [pqTrigger_eq, Ep.proc]
    · split <;> (try split) <;> simp [pqTrigger_eq, Ep.proc]
    · have hps : (e.txPendStart.filter (·.tid != t)).map (·.tid) = (e.txPendStart.map (·.tid)).filter (· != t) := by
        rw [List.filter_map]; rfl
      have hack : e.txPendAck.erase t = e.txPendAck.filter (· != t) := hfl.2.1.2.1.erase_eq_filter t
      simp only [Ep.proc]
      cases htmp : e.txTmp with
      | none =>
        simp only [Ep.inflight, List.filter_append, hps, hack, tmpTids, List.filter_nil]
        exact List.Perm.refl _
      | some p =>
        obtain ⟨it, sent⟩ := p
        by_cases hit : it.tid = t
        · simp only [hit, beq_self_eq_true, if_true, inflight_pqTrigger]
          simp only [Ep.inflight, List.filter_append, hps, hack, tmpTids]
          simp [hit]
        · have : (it.tid == t) = false := by simpa using hit
          simp only [this]
          simp only [Ep.inflight, List.filter_append, hack, tmpTids]
          simp [hit, hps]
    · simp [txFin, isSig, txSig]
    · simp [rxFin, isSig]

theorem q_handleMsgs (e : Ep) (ms : List Msg) : QStep e (handleMsgs e ms) := by
  induction ms generalizing e with
  | nil => exact QStep.id e
  | cons m ms ih =>
    unfold handleMsgs
    split
    · exact QStep.id e
    · exact QStep.comp (QStep.congr_left (e' := { e with rxMore := !ms.isEmpty || e.rx.dead }) rfl (q_handleMsg _ m)) (ih _)

theorem q_recvRaw (e : Ep) (chunk : Bytes) : QStep e (recvRaw e chunk) := by
  unfold recvRaw
  simp only []
  have h1 : QStep e (handleMsgs (rxEntry e chunk) (feed e.rx chunk).2) :=
    QStep.congr_left (e' := rxEntry e chunk) rfl (q_handleMsgs _ _)
  have h2 : QStep e ({ (handleMsgs (rxEntry e chunk) (feed e.rx chunk).2).1 with rxMore := false },
      (handleMsgs (rxEntry e chunk) (feed e.rx chunk).2).2) :=
    QStep.congr_right (r := handleMsgs (rxEntry e chunk) (feed e.rx chunk).2) rfl rfl h1
  split
  · exact QStep.comp (r1 := ({ (handleMsgs (rxEntry e chunk) (feed e.rx chunk).2).1 with rxMore := false }, _)) h2 (q_doClose _)
  · exact h2

def Ev.isSend : Ev → Bool | .send _ => true | _ => false
def Ev.isPop : Ev → Bool | .pop _ => true | _ => false

theorem Ev.queue_cases (ev : Ev) :
    (∃ d, ev = .send d) ∨ (∃ t, ev = .pop t) ∨ (ev.isSend = false ∧ ev.isPop = false) := by
  cases ev <;> simp [Ev.isSend, Ev.isPop]

theorem q_step (e : Ep) (ev : Ev) : ev.isSend = false → ev.isPop = false → QStep e (step e ev) := by
  apply step_cases e (P := fun ev r => ev.isSend = false → ev.isPop = false → QStep e r)
  case idle => intros; exact QStep.id e
  case send => intro _ _ h; cases h
  case pop => intro _ _ h; cases h
  case advance | query | pqClosed | kaFire | modulate => intros; exact QStep.refl_of_qv rfl rfl rfl
  case start =>
    intros
    refine QStep.congr_left (e' := (if (!e.cfg.passive) = true then sendContact { e with started := true } else { e with started := true })) ?_
      (q_setState _ _)
    split <;> rfl
  case terminate => intro _ r _ _; exact q_sendSessTerm e r false
  case close | rxEof => intros; exact q_doClose e
  case procQueue =>
    intros
    exact QStep.congr_right (r := ((processQueue { e with pqPend := false }).1, (processQueue { e with pqPend := false }).2.1))
      rfl rfl (QStep.congr_left (e' := { e with pqPend := false }) rfl (q_processQueue _))
  case pump =>
    intro _ _ n _ _
    exact QStep.congr_right (r := pump { e with txIdle := false } n) rfl rfl (QStep.congr_left (e' := { e with txIdle := false }) rfl (q_pump _ n))
  case rx => intro _ c _ _; exact q_recvRaw e c
  case idleClose => intros; exact QStep.congr_left (e' := { e with idleDeadline := none }) rfl (q_doClose _)
  case idleTerm => intros; exact QStep.congr_left (e' := { e with idleDeadline := none }) rfl (q_sendSessTerm _ _ _)

theorem q_step_send_fields (e : Ep) (d : Bytes) (hc : e.closed = false) :
    (step e (.send d)).2 = [.ret (.str (natStr e.txNextId))] ∧
    (step e (.send d)).1.txMap = e.txMap ++ [e.txNextId] ∧
    (step e (.send d)).1.txNextId = e.txNextId + 1 ∧
    (step e (.send d)).1.rxMap = e.rxMap ∧ (step e (.send d)).1.rxLog = e.rxLog ∧
    (step e (.send d)).1.inflight = e.txPendStart.map (·.tid) ++ e.txNextId :: (tmpTids e.txTmp ++ e.txPendAck) := by
  unfold step
  simp only [hc, Bool.false_eq_true, ↓reduceIte, pqTrigger_eq, Ep.inflight, true_and]
  rw [List.map_append, List.append_assoc]; rfl

theorem q_step_send (e : Ep) (d : Bytes) (hc : e.closed = false) (hi : QInv e) : QInv (step e (.send d)).1 := by
  obtain ⟨_, hm, hx, _, _, hf⟩ := q_step_send_fields e d hc
  have hn : e.txNextId ∉ e.txMap := fun h => Nat.lt_irrefl _ (hi.fresh _ h)
  have hn' : e.txNextId ∉ e.inflight := fun h => hn ((hi.iff _).mpr h)
  have hfl : (step e (.send d)).1.inflight.Perm (e.txNextId :: e.inflight) := by
    rw [hf]; exact List.perm_middle
  refine ⟨hfl.nodup_iff.mpr (List.nodup_cons.mpr ⟨hn', hi.fl⟩), ?_, ?_, ?_⟩
  · rw [hm]
    exact List.nodup_append.mpr ⟨hi.nd, by simp, by intro a ha b hb hab; simp at hb; exact hn (hb ▸ hab ▸ ha)⟩
  · intro t
    rw [hfl.mem_iff, hm]
    simp only [List.mem_append, List.mem_cons, List.not_mem_nil, or_false]
    rw [hi.iff t]
    exact Or.comm
  · intro t ht
    rw [hm] at ht
    simp only [List.mem_append, List.mem_cons, List.not_mem_nil, or_false] at ht
    rw [hx]
    rcases ht with ht | ht
    · exact Nat.lt_succ_of_lt (hi.fresh t ht)
    · exact ht ▸ Nat.lt_succ_self _

theorem qv_tx_popRx (e : Ep) (tid : Nat) :
    (popRx e tid).1.txMap = e.txMap ∧ (popRx e tid).1.txNextId = e.txNextId ∧ (popRx e tid).1.inflight = e.inflight
    ∧ (popRx e tid).1.rxLog = e.rxLog ∧ txFin (popRx e tid).2 = [] ∧ rxFin (popRx e tid).2 = [] := by
  unfold popRx; split <;> simp [Ep.inflight, txFin, rxFin, isSig]

end Tcpcl
end DtnVerif
