/-
  A transfer reported successful has left the send queue for good: its id is not in `_tx_map`
  (hence not awaiting an acknowledgement) and lies below the next id to be handed out.
-/
import DtnVerif.Lemmas.TcpclQueue
import DtnVerif.Lemmas.TcpclTr
namespace DtnVerif
namespace Tcpcl

structure SP (e : Ep) : Prop where
  succ : ∀ t ∈ e.successLog, t ∉ e.txMap ∧ t < e.txNextId
  pos : 1 ≤ e.txNextId
  mapPos : ∀ t ∈ e.txMap, 1 ≤ t

/-- `SP` with the part of `QInv` that keeps it: `_tx_map` lists every transfer once, all below the next id -/
def SPQ (e : Ep) : Prop := (e.txMap.Nodup ∧ ∀ t ∈ e.txMap, t < e.txNextId) ∧ SP e

def Ep.spv (e : Ep) := (e.successLog, e.txMap, e.txNextId)

theorem SPQ.of_spv {e e' : Ep} (hi : SPQ e) (h : e'.spv = e.spv) : SPQ e' := by
  simp only [Ep.spv, Prod.mk.injEq] at h
  obtain ⟨h1, h2, h3⟩ := h
  obtain ⟨⟨q1, q2⟩, s1, s2, s3⟩ := hi
  exact ⟨⟨h2 ▸ q1, by rw [h2, h3]; exact q2⟩, by rw [h1, h2, h3]; exact s1, h3 ▸ s2, by rw [h2]; exact s3⟩

theorem SPQ.sub {e e' : Ep} (hi : SPQ e) (h1 : e'.successLog = e.successLog) (h2 : e'.txMap.Sublist e.txMap)
    (h3 : e'.txNextId = e.txNextId) : SPQ e' := by
  obtain ⟨⟨q1, q2⟩, s1, s2, s3⟩ := hi
  refine ⟨⟨q1.sublist h2, fun t ht => h3 ▸ q2 t (h2.subset ht)⟩, ?_, h3 ▸ s2, fun t ht => s3 t (h2.subset ht)⟩
  intro t ht
  rw [h1] at ht
  rw [h3]
  exact ⟨fun h => (s1 t ht).1 (h2.subset h), (s1 t ht).2⟩

/-- `enqueue` hands out the next id; the final acknowledgement of `t` moves `t` from the map to the success
    log, where it stays out of the map because the map listed it once -/
theorem sp_tr {k : Kind} {a b : Ep} (h : Tr k a b) (hi : SPQ a) : SPQ b := by
  cases h with
  | enqueue _ d =>
    obtain ⟨⟨q1, q2⟩, s1, s2, s3⟩ := hi
    have hn : a.txNextId ∉ a.txMap := fun h => Nat.lt_irrefl _ (q2 _ h)
    have mem : ∀ {t}, t ∈ a.txMap ++ [a.txNextId] → t ∈ a.txMap ∨ t = a.txNextId := fun h => by
      rwa [List.mem_append, List.mem_singleton] at h
    refine ⟨⟨List.nodup_append.mpr ⟨q1, List.nodup_cons.mpr ⟨List.not_mem_nil, List.nodup_nil⟩, fun x hx y hy hxy => hn (List.mem_singleton.mp hy ▸ hxy ▸ hx)⟩,
      fun t ht => ?_⟩, fun t ht => ⟨fun h => ?_, Nat.lt_succ_of_lt (s1 t ht).2⟩, Nat.le_succ_of_le s2, fun t ht => ?_⟩
    · rcases mem ht with ht | rfl
      · exact Nat.lt_succ_of_lt (q2 t ht)
      · exact Nat.lt_succ_self _
    · rcases mem h with h | rfl
      · exact (s1 t ht).1 h
      · exact Nat.lt_irrefl _ (s1 _ ht).2
    · rcases mem ht with ht | rfl
      · exact s3 t ht
      · exact s2
  | flush => exact hi.sub rfl List.filter_sublist rfl
  | refused _ r t _ _ => exact hi.sub rfl List.erase_sublist rfl
  | ackEnd _ f t l _ hm _ _ =>
    have h0 := hi.sub (e' := { a with txMap := a.txMap.erase t }) rfl List.erase_sublist rfl
    obtain ⟨hq, s1, s2, s3⟩ := h0
    refine ⟨hq, ?_, s2, s3⟩
    intro x hx
    rcases List.mem_append.mp hx with hx | hx
    · exact s1 x hx
    · rw [List.mem_singleton.mp hx]
      exact ⟨fun h => ((List.Nodup.mem_erase_iff hi.1.1).mp h).1 rfl, hi.1.2 t hm⟩
  | _ =>
    -- the other transactions, emissions included, touch neither the success log, the map nor the next id
    exact hi.of_spv (by simp only [Ep.spv, mergeSession, Ep.sent, kaReset, idleReset, Ep.proc])

theorem sp_step (e : Ep) (ev : Ev) (hq : QInv e) (hs : SP e) : SP (step e ev).1 :=
  (step_inv (P := SPQ) (fun _ _ _ => sp_tr) e ev ⟨⟨hq.nd, hq.fresh⟩, hs⟩).2

theorem sp_init (cfg : Cfg) : SP { cfg := cfg } := ⟨by simp, by simp, by simp⟩

end Tcpcl
end DtnVerif
