/-
  A final XFER_ACK is emitted only for a transfer recorded as completely received, with its length.
-/
import DtnVerif.Lemmas.TcpclTr
namespace DtnVerif
namespace Tcpcl

def ackOK (log : List (Nat × Bytes)) : Msg → Prop
  | .xferAck f t l => hasEnd f = true → ∃ d, (t, d) ∈ log ∧ d.length = l
  | _ => True

theorem ackOK_mono {log : List (Nat × Bytes)} (x : List (Nat × Bytes)) {m : Msg} (h : ackOK log m) : ackOK (log ++ x) m := by
  cases m <;> simp only [ackOK] at h ⊢
  intro he
  obtain ⟨d, hd, hl⟩ := h he
  exact ⟨d, List.mem_append_left _ hd, hl⟩

def AckInv (e : Ep) : Prop := ∀ m ∈ e.emitted, ackOK e.rxLog m

structure AckView where
  rxLog : List (Nat × Bytes)
  emitted : List Msg

def Ep.ackView (e : Ep) : AckView := ⟨e.rxLog, e.emitted⟩

theorem ackInv_of_view {e e' : Ep} (h : e'.ackView = e.ackView) (hi : AckInv e) : AckInv e' := by
  simp only [Ep.ackView, AckView.mk.injEq] at h
  obtain ⟨h1, h2⟩ := h
  unfold AckInv at *
  rw [h1, h2]; exact hi

@[simp] theorem av_kaReset (e : Ep) : (kaReset e).ackView = e.ackView := rfl
@[simp] theorem av_idleReset (e : Ep) : (idleReset e).ackView = e.ackView := rfl

theorem ackInv_sent (e : Ep) (m : Msg) (hi : AckInv e) (hm : ackOK e.rxLog m := by trivial) :
    AckInv (e.sent m) := by
  intro x hx
  simp only [Ep.sent, List.mem_append, List.mem_singleton] at hx ⊢
  rcases hx with hx | hx
  · exact hi x hx
  · subst hx; exact hm

/-- the only transaction that emits a final acknowledgement is the one that logs the transfer -/
theorem ackInv_tr {k : Kind} {a b : Ep} (h : Tr k a b) (hi : AckInv a) : AckInv b := by
  cases h with
  | contact => exact ackInv_of_view (e := a.sent (.contact 0)) rfl (ackInv_sent a _ hi)
  | init =>
    exact ackInv_of_view (e := a.sent (.sessInit a.cfg.keepalive a.cfg.segMru sizeMax a.cfg.nodeId
      (sessionExt a.cfg))) rfl (ackInv_sent a _ hi)
  | term _ f r _ => exact ackInv_sent a _ hi
  | kaFire _ _ => exact ackInv_sent _ _ hi
  | segMid _ it sent f x d n _ _ =>
    exact ackInv_of_view (e := a.sent (.xferSegment f it.tid x d)) rfl (ackInv_sent a _ hi)
  | segEnd _ it sent f x d _ _ =>
    exact ackInv_of_view (e := a.sent (.xferSegment f it.tid x d)) rfl (ackInv_sent a _ hi)
  | reject _ r m => exact ackInv_sent _ _ hi
  | rxMid _ f t x d cur _ _ he => exact ackInv_sent _ _ hi (fun h => absurd h (by simp [he]))
  | rxEnd _ f t x d cur _ _ _ =>
    intro m hm
    simp only [Ep.sent, Ep.proc, List.mem_append, List.mem_singleton] at hm
    rcases hm with hm | hm
    · exact ackOK_mono _ (hi m hm)
    · subst hm
      exact fun _ => ⟨cur ++ d, by simp, rfl⟩
  | _ => exact hi

theorem ackInv_step (e : Ep) (ev : Ev) (hi : AckInv e) : AckInv (step e ev).1 :=
  step_inv (fun _ _ _ => ackInv_tr) e ev hi

theorem ackInv_init (cfg : Cfg) : AckInv { cfg := cfg } := by
  intro m hm; simp at hm

theorem ackInv_run (evs : List Ev) (e : Ep) (hi : AckInv e) : AckInv (runEp e evs) :=
  run_inv ackInv_step evs e hi

end Tcpcl
end DtnVerif
