/-
  The two-endpoint system at rest: the per-endpoint invariants lifted to every reachable state (`reach_all`),
  and what they give for a state in which no internal event is enabled — every bundle delivered and reported
  (`quiet_all_delivered`, one direction), a session in termination closed on both sides (`stuck_closed`, the
  quiescent-state argument of Lemmas/TcpclQuiet applied to both sides).
-/
import DtnVerif.Lemmas.TcpclQuiet
import DtnVerif.Lemmas.TcpclVariantSys
namespace DtnVerif
namespace Tcpcl

theorem reach_all (cfgA cfgB : Cfg) (sch : List SysEv)
    (a1 : 0 < cfgA.segInit) (a2 : cfgA.privExt = false) (a3 : 0 < cfgA.segMru)
    (b1 : 0 < cfgB.segInit) (b2 : cfgB.privExt = false) (b3 : 0 < cfgB.segMru)
    (hwf : ∀ pre, pre <+: sch → SysWF (runSys (initSys cfgA cfgB) pre))
    (hs : ∀ ev ∈ sch, ev.sendOK) :
    SysInv (runSys (initSys cfgA cfgB) sch) ∧ SysWF (runSys (initSys cfgA cfgB) sch)
    ∧ EpAll (runSys (initSys cfgA cfgB) sch).a ∧ EpAll (runSys (initSys cfgA cfgB) sch).b := by
  obtain ⟨hi, hcs⟩ := cs_reach cfgA cfgB sch a1 a2 a3 b1 b2 b3 hwf hs
  obtain ⟨wa, wb⟩ := wake_reach cfgA cfgB sch a1 a2 a3 b1 b2 b3 hwf hs
  obtain ⟨qa, qb⟩ := sys_lift_init (fun e => QInv e ∧ SP e)
    (fun e ev h => ⟨h.1.step e ev, sp_step e ev h.1 h.2⟩)
    (fun cfg => ⟨QInv.init cfg, sp_init cfg⟩) cfgA cfgB sch
  obtain ⟨sa, sb⟩ := sys_lift_init ASInv asInv_step asInv_init cfgA cfgB sch
  obtain ⟨ta, tb⟩ := sys_lift_init TSok ts_step ts_init cfgA cfgB sch
  obtain ⟨pa, pb⟩ := sys_lift_init PEInv pe_step pe_init cfgA cfgB sch
  obtain ⟨ga, gb⟩ := sys_lift_init GotInv got_step got_init cfgA cfgB sch
  obtain ⟨ra, rb⟩ := sys_lift_init (fun e => e.rxMore = false) rxMore_step (fun _ => rfl) cfgA cfgB sch
  -- `CL` is preserved because a read always delivers at least one octet
  obtain ⟨ca, cb⟩ := runSys_preserves (fun s => CL s.a ∧ CL s.b)
    (fun s ev => sys_lift_step' (fun _ => True) CL (fun e ev hne _ h => cl_step e ev h hne) s ev trivial trivial)
    sch (initSys cfgA cfgB)
    ⟨cl_step _ _ (cl_init cfgA) (by intro c h; cases h), cl_step _ _ (cl_init cfgB) (by intro c h; cases h)⟩
  exact ⟨hi, hwf sch (List.prefix_refl _), ⟨hi.ia, wa, qa.1, qa.2, sa, hcs.ka, hcs.ca, ta, pa, ga, ca, ra⟩,
         ⟨hi.ib, wb, qb.1, qb.2, sb, hcs.kb, hcs.cb, tb, pb, gb, cb, rb⟩⟩

theorem term_reaches (x y : Ep) (hx : EpAll x) (hy : EpAll y) (hxy : y.processed = x.emitted) (xt : x.inTerm = true) :
    y.gotTerm = true ∧ y.inTerm = true := by
  obtain ⟨P, hP⟩ := hx.inv.tx
  obtain ⟨m, hm, hmt⟩ := term_emitted hP xt
  cases m with
  | sessTerm f r =>
    have hproc : Msg.sessTerm f r ∈ y.processed := by rw [hxy]; exact hm
    rcases hy.got.2 f r hproc with hg | ⟨z, hz, hzr⟩
    · exact ⟨hg, hy.got.1 hg⟩
    · rw [hy.ci.no_rej z hz] at hzr; cases hzr
  | _ => simp [Msg.isTerm'] at hmt

theorem quiet_wire (w r : Ep) (pipe : Bytes) (hw : EpAll w) (hr : EpAll r) (hwf : ∀ m ∈ w.emitted, m.WF)
    (hwire : r.rxBytes ++ pipe = w.accepted) (hp : pipe = []) (wo : w.closed = false) (ro : r.closed = false)
    (hsrc : w.txSrc = 0) : r.processed = w.emitted ∧ r.rxBytes = encodeAll w.emitted := by
  obtain ⟨b1, b2⟩ := no_src_buffers hw.ts wo hsrc
  exact drained_processed w r pipe hw.inv hr.inv hwf hwire b1 b2 hp ro

theorem quiet_all_delivered (w r : Ep) (pWR pRW : Bytes) (hw : EpAll w) (hr : EpAll r) (hra : RxAckInv r)
    (wfw : ∀ m ∈ w.emitted, m.WF) (wfr : ∀ m ∈ r.emitted, m.WF)
    (wire : r.rxBytes ++ pWR = w.accepted) (wire' : w.rxBytes ++ pRW = r.accepted)
    (wo : w.closed = false) (ro : r.closed = false) (wt : w.inTerm = false) (p1 : pWR = []) (p2 : pRW = [])
    (sw : w.txSrc = 0) (sr : r.txSrc = 0) (pq : w.pqSources = 0) :
    r.rxLog = w.sendLog.map (fun it => (it.tid, it.data))
    ∧ (∀ it ∈ w.sendLog, it.tid ∈ w.successLog) ∧ w.txMap = [] := by
  obtain ⟨b1, b2⟩ := no_src_buffers hw.ts wo sw
  obtain ⟨c1, c2⟩ := no_src_buffers hr.ts ro sr
  have hd : Drained w r pWR := ⟨wo, ro, wt, b1, b2, p1, pq⟩
  exact ⟨(drained_delivery w r pWR hw.inv hr.inv hw.wake wfw wire hd).2.2.2,
    drained_success w r pWR pRW hw.inv hr.inv hw.wake wfw wfr wire wire' hd c1 c2 p2 hw.q hw.sp hw.as hra
      hw.ci.no_rej⟩

/-- **When nothing internal is enabled any more, a session in termination is closed on both sides**, at
    the level of one state: with both endpoints open, termination requested or answered by one side and no
    KEEPALIVE ever sent by one of them (B, say), some internal event is still enabled. -/
theorem stuck_closed (s : Sys) (hi : SysInv s) (hw : SysWF s) (ha : EpAll s.a) (hb : EpAll s.b)
    (hst : Var.Stuck s) (hterm : s.a.inTerm = true ∨ s.b.inTerm = true)
    (nokaB : ∀ m ∈ s.b.emitted, m ≠ .keepalive) : s.a.closed = true ∧ s.b.closed = true := by
  obtain ⟨oa, ob, qa, qb⟩ := hst.spec
  cases hao : s.a.closed with
  | true =>
    cases hbo : s.b.closed with
    | true => exact ⟨rfl, rfl⟩
    | false => exact absurd (hao.symm.trans (ob hbo).2.2) nofun
  | false =>
    obtain ⟨txA, pA, hbo⟩ := oa hao
    obtain ⟨txB, pB, -⟩ := ob hbo
    -- everything emitted has been processed by the other side
    obtain ⟨pAB, -⟩ := quiet_wire s.a s.b s.toB ha hb hw.1 hi.wireB pB hao hbo txA
    obtain ⟨pBA, rA⟩ := quiet_wire s.b s.a s.toA hb ha hw.2 hi.wireA pA hbo hao txB
    -- so the SESS_TERM of the side in termination has reached the other, which answered, and the answer has arrived
    have hab : s.a.inTerm = true ∧ s.b.inTerm = true := by
      rcases hterm with ht | ht
      · exact ⟨ht, (term_reaches s.a s.b ha hb pAB ht).2⟩
      · exact ⟨(term_reaches s.b s.a hb ha pBA ht).2, ht⟩
    obtain ⟨ag, -⟩ := term_reaches s.b s.a hb ha pBA hab.2
    -- an endpoint in termination is in a session, so its idle source is not busy-waiting
    have := quiet_not_open s.a s.b ha hb pAB pBA rA hw.2 hbo (qa (ha.inv.inSess_of_inTerm hab.1)) txA
      (qb (hb.inv.inSess_of_inTerm hab.2)) txB hab.1 ag hab.2 nokaB
    exact absurd (hao.symm.trans this) nofun

end Tcpcl
end DtnVerif
