/-
  The configuration of an endpoint never changes, and what it has negotiated (`kaTime`, `idleTime`,
  the recorded peer SESS_INIT) changes in one transaction only: the merge of a received SESS_INIT.
-/
import DtnVerif.Lemmas.TcpclTr
namespace DtnVerif
namespace Tcpcl

@[simp] theorem cfg_kaReset (e : Ep) : (kaReset e).cfg = e.cfg := rfl
@[simp] theorem cfg_idleReset (e : Ep) : (idleReset e).cfg = e.cfg := rfl
@[simp] theorem cfg_sendMessage (e : Ep) (m : Msg) : (sendMessage e m).cfg = e.cfg := by
  simp only [sendMessage, sendReady, kaReset, idleReset]
@[simp] theorem cfg_flush (e : Ep) : (flushPendStart e).1.cfg = e.cfg := rfl
@[simp] theorem cfg_mergeSession (e : Ep) (p : PeerInit) : (mergeSession e p).cfg = e.cfg := rfl
@[simp] theorem cfg_sendContact (e : Ep) : (sendContact e).cfg = e.cfg := cfg_sendMessage e (.contact 0)
@[simp] theorem cfg_sendInit (e : Ep) : (sendInit e).cfg = e.cfg :=
  cfg_sendMessage e (.sessInit e.cfg.keepalive e.cfg.segMru sizeMax e.cfg.nodeId (sessionExt e.cfg))
@[simp] theorem cfg_sendReject (e : Ep) (r : Nat) (m : Msg) : (sendReject e r m).cfg = e.cfg :=
  cfg_sendMessage e (.msgReject m.type r)

@[simp] theorem kat_kaReset (e : Ep) : (kaReset e).kaTime = e.kaTime := rfl
@[simp] theorem kat_idleReset (e : Ep) : (idleReset e).kaTime = e.kaTime := rfl
@[simp] theorem kat_sendMessage (e : Ep) (m : Msg) : (sendMessage e m).kaTime = e.kaTime := by
  simp only [sendMessage, sendReady, kaReset, idleReset]
@[simp] theorem kat_flush (e : Ep) : (flushPendStart e).1.kaTime = e.kaTime := rfl
@[simp] theorem kat_sendContact (e : Ep) : (sendContact e).kaTime = e.kaTime := kat_sendMessage e (.contact 0)
@[simp] theorem kat_sendInit (e : Ep) : (sendInit e).kaTime = e.kaTime :=
  kat_sendMessage e (.sessInit e.cfg.keepalive e.cfg.segMru sizeMax e.cfg.nodeId (sessionExt e.cfg))
@[simp] theorem kat_sendReject (e : Ep) (r : Nat) (m : Msg) : (sendReject e r m).kaTime = e.kaTime :=
  kat_sendMessage e (.msgReject m.type r)

@[simp] theorem idt_kaReset (e : Ep) : (kaReset e).idleTime = e.idleTime := rfl
@[simp] theorem idt_idleReset (e : Ep) : (idleReset e).idleTime = e.idleTime := rfl
@[simp] theorem idt_sendMessage (e : Ep) (m : Msg) : (sendMessage e m).idleTime = e.idleTime := by
  simp only [sendMessage, sendReady, kaReset, idleReset]
@[simp] theorem idt_flush (e : Ep) : (flushPendStart e).1.idleTime = e.idleTime := rfl
@[simp] theorem idt_sendContact (e : Ep) : (sendContact e).idleTime = e.idleTime := idt_sendMessage e (.contact 0)
@[simp] theorem idt_sendInit (e : Ep) : (sendInit e).idleTime = e.idleTime :=
  idt_sendMessage e (.sessInit e.cfg.keepalive e.cfg.segMru sizeMax e.cfg.nodeId (sessionExt e.cfg))
@[simp] theorem idt_sendReject (e : Ep) (r : Nat) (m : Msg) : (sendReject e r m).idleTime = e.idleTime :=
  idt_sendMessage e (.msgReject m.type r)

@[simp] theorem pin_kaReset (e : Ep) : (kaReset e).peerInit = e.peerInit := rfl
@[simp] theorem pin_idleReset (e : Ep) : (idleReset e).peerInit = e.peerInit := rfl
@[simp] theorem pin_sendMessage (e : Ep) (m : Msg) : (sendMessage e m).peerInit = e.peerInit := by
  simp only [sendMessage, sendReady, kaReset, idleReset]
@[simp] theorem pin_flush (e : Ep) : (flushPendStart e).1.peerInit = e.peerInit := rfl
@[simp] theorem pin_sendContact (e : Ep) : (sendContact e).peerInit = e.peerInit := pin_sendMessage e (.contact 0)
@[simp] theorem pin_sendInit (e : Ep) : (sendInit e).peerInit = e.peerInit :=
  pin_sendMessage e (.sessInit e.cfg.keepalive e.cfg.segMru sizeMax e.cfg.nodeId (sessionExt e.cfg))
@[simp] theorem pin_sendReject (e : Ep) (r : Nat) (m : Msg) : (sendReject e r m).peerInit = e.peerInit :=
  pin_sendMessage e (.msgReject m.type r)

def Keeps (a b : Ep) : Prop :=
  b.cfg = a.cfg ∧ b.kaTime = a.kaTime ∧ b.idleTime = a.idleTime ∧ b.peerInit = a.peerInit

theorem negotiated_tr {k : Kind} {a b : Ep} (h : Tr k a b) :
    Keeps a b ∨ ∃ p x, b.cfg = a.cfg ∧ b.kaTime = min a.cfg.keepalive p.keepalive ∧ b.idleTime = a.cfg.idle
      ∧ b.peerInit = some p ∧ b.processed = a.processed ++ [.sessInit p.keepalive p.segMru p.xferMru p.node x] := by
  cases h with
  | merge _ p x => exact .inr ⟨p, x, rfl, rfl, rfl, rfl, rfl⟩
  | _ => exact .inl ⟨rfl, rfl, rfl, rfl⟩

theorem cfg_tr {k : Kind} {a b : Ep} (h : Tr k a b) : b.cfg = a.cfg := by
  rcases negotiated_tr h with h | ⟨_, _, h, _⟩
  · exact h.1
  · exact h

theorem cfg_step (e : Ep) (ev : Ev) : (step e ev).1.cfg = e.cfg :=
  step_inv (P := fun e' => e'.cfg = e.cfg) (fun _ _ _ h hi => (cfg_tr h).trans hi) e ev rfl

end Tcpcl
end DtnVerif
