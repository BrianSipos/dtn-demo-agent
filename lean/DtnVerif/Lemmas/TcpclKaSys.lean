/-
  Two-endpoint form of the keepalive facts: a KEEPALIVE is only ever emitted when both configured
  keepalive intervals are positive (the negotiated interval is their minimum, `C14_negotiation_sys`).
-/
import DtnVerif.Lemmas.TcpclEmitKa
import DtnVerif.Lemmas.TcpclNegotiated
import DtnVerif.Lemmas.TcpclSysLift
namespace DtnVerif
namespace Tcpcl

def SysKa (s : Sys) : Prop := KaEmit s.b.cfg.keepalive s.a ∧ KaEmit s.a.cfg.keepalive s.b

theorem KaEmit.none_of_zero {pk : Nat} {e : Ep} (h : KaEmit pk e) (hk : e.cfg.keepalive = 0 ∨ pk = 0) :
    ∀ m ∈ e.emitted, m ≠ .keepalive := by
  intro m hm heq
  subst heq
  have : 0 < e.cfg.keepalive ∧ 0 < pk := h _ hm
  omega

theorem peerInit_is_cfg (x y : Ep) (hn : NG x) (hy : EpInv y) (hpre : x.processed <+: y.emitted)
    (p : PeerInit) (hp : x.peerInit = some p) :
    p.keepalive = y.cfg.keepalive ∧ p.segMru = y.cfg.segMru ∧ p.xferMru = sizeMax ∧ p.node = y.cfg.nodeId
    ∧ x.kaTime = min x.cfg.keepalive y.cfg.keepalive ∧ x.idleTime = x.cfg.idle := by
  obtain ⟨k1, k2, ext, hmem⟩ := hn.1 p hp
  have hem := hy.emit _ (hpre.subset hmem)
  simp only [emitOK] at hem
  obtain ⟨e1, e2, e3, e4⟩ := hem
  exact ⟨e2, e1, e3, e4, by rw [k1, e2], k2⟩

theorem armed_both_pos (x y : Ep) (hx : EpInv x) (hy : EpInv y) (hn : NG x) (hpre : x.processed <+: y.emitted) :
    x.kaDeadline.isSome = true → 0 < x.cfg.keepalive ∧ 0 < y.cfg.keepalive := by
  intro hd
  have hk : 0 < x.kaTime := hx.timer.1 hd
  cases hp : x.peerInit with
  | none =>
    have := (hn.2 hp).1
    omega
  | some p =>
    rw [(peerInit_is_cfg x y hn hy hpre p hp).2.2.2.2.1] at hk
    omega

theorem kaEmit_move (x y : Ep) (ev : Ev) (hx : EpInv x) (hy : EpInv y) (hn : NG x) (hpre : x.processed <+: y.emitted)
    (kx : KaEmit y.cfg.keepalive x) (ky : KaEmit x.cfg.keepalive y) :
    KaEmit y.cfg.keepalive (step x ev).1 ∧ KaEmit (step x ev).1.cfg.keepalive y :=
  ⟨kaEmit_step x ev kx (armed_both_pos x y hx hy hn hpre), by rw [cfg_step]; exact ky⟩

theorem sysKa_step (s : Sys) (ev : SysEv) (hi : SysInv s) (hw : SysWF s) (hna : NG s.a) (hnb : NG s.b)
    (hk : SysKa s) : SysKa (sysStep s ev) := by
  obtain ⟨pB, pA⟩ := transport s hi hw
  obtain ⟨ka, kb⟩ := hk
  rcases sysStep_cases s ev with h0 | ⟨e, p, _, _, h1⟩ | ⟨e, p, _, _, h1⟩
  · rw [h0]; exact ⟨ka, kb⟩
  · rw [h1]; exact kaEmit_move s.a s.b e hi.ia hi.ib hna pA ka kb
  · rw [h1]; exact (kaEmit_move s.b s.a e hi.ib hi.ia hnb pB kb ka).symm

theorem sysKa_run (sch : List SysEv) (cfgA cfgB : Cfg)
    (a1 : 0 < cfgA.segInit) (a2 : cfgA.privExt = false) (a3 : 0 < cfgA.segMru)
    (b1 : 0 < cfgB.segInit) (b2 : cfgB.privExt = false) (b3 : 0 < cfgB.segMru)
    (hwf : ∀ pre, pre <+: sch → SysWF (runSys (initSys cfgA cfgB) pre)) (hs : ∀ ev ∈ sch, ev.sendOK) :
    SysKa (runSys (initSys cfgA cfgB) sch) := by
  have k0 : ∀ cfg pk, KaEmit pk (step { cfg := cfg } .start).1 :=
    fun cfg pk => kaEmit_step _ _ (by intro m hm; cases hm) (by intro h; cases h)
  exact (runSys_induct (fun s => (NG s.a ∧ NG s.b) ∧ SysKa s)
    (fun s ev hi hw _ _ h => ⟨sys_lift_step NG ng_step s ev h.1, sysKa_step s ev hi hw h.1.1 h.1.2 h.2⟩)
    sch _ (sysInv_init cfgA cfgB a1 a2 a3 b1 b2 b3)
    ⟨⟨ng_step _ _ (ng_init cfgA), ng_step _ _ (ng_init cfgB)⟩, k0 cfgA _, k0 cfgB _⟩ hwf hs).2.2

end Tcpcl
end DtnVerif
