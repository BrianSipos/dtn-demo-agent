/- The independent RFC 9171 encoder agrees with the model encoder, and the independent shape
   recogniser accepts the model encoder's output. -/
import DtnVerif.Lemmas.BundleDec
namespace DtnVerif
namespace Bp
open Cbor

theorem beBytes_snoc (k n : Nat) :
    beBytes (k + 1) n = beBytes k (n / 256) ++ [UInt8.ofNat (n % 256)] := by
  induction k generalizing n with
  | zero => simp [beBytes]
  | succ k ih =>
    rw [beBytes, ih (n % 256 ^ (k + 1))]
    conv => rhs; rw [beBytes]
    have e1 : n / 256 / 256 ^ k = n / 256 ^ (k + 1) := by
      rw [Nat.div_div_eq_div_mul, Nat.pow_succ, Nat.mul_comm]
    have e2 : n % 256 ^ (k + 1) / 256 = n / 256 % 256 ^ k := by
      rw [Nat.pow_succ, Nat.mul_comm, Nat.mod_mul_right_div_self]
    have e3 : n % 256 ^ (k + 1) % 256 = n % 256 := by
      apply Nat.mod_mod_of_dvd
      exact ⟨256 ^ k, by rw [Nat.pow_succ, Nat.mul_comm]⟩
    rw [e1, e2, e3]
    simp

theorem rfcBE_eq (k n : Nat) : rfcBE k n = beBytes k n := by
  induction k generalizing n with
  | zero => rfl
  | succ k ih => rw [rfcBE, ih, beBytes_snoc]

theorem shl5_or (mt n : Nat) (h : n < 32) : mt <<< 5 ||| n = mt * 32 + n := by
  rw [← Nat.shiftLeft_add_eq_or_of_lt (by simpa using h), Nat.shiftLeft_eq]

theorem rfcHead_eq (mt n : Nat) : rfcHead mt n = head mt n := by
  unfold rfcHead head
  by_cases h1 : n < 24
  · have : n ≤ 23 := by omega
    simp only [h1, this, if_true, shl5_or mt n (by omega)]
  · have h1' : ¬ n ≤ 23 := by omega
    simp only [h1, h1', if_false, rfcBE_eq, shl5_or mt 24 (by omega), shl5_or mt 25 (by omega),
      shl5_or mt 26 (by omega), shl5_or mt 27 (by omega)]
    have e2 : (n ≤ 0xff) ↔ (n < 256) := by omega
    have e3 : (n ≤ 0xffff) ↔ (n < 65536) := by omega
    have e4 : (n ≤ 0xffffffff) ↔ (n < 4294967296) := by omega
    simp only [e2, e3, e4]

theorem encItems_append (xs ys : List Item) : encItems (xs ++ ys) = encItems xs ++ encItems ys := by
  induction xs with
  | nil => simp [encItems]
  | cons x xs ih => simp [encItems, ih]

theorem encItems_uints (ps : List Nat) : encItems (ps.map Item.uint) = encNatList ps := by
  induction ps with
  | nil => simp [encItems, encNatList]
  | cons p ps ih => simp [encItems, encItem, encNatList, encUint, rfcHead_eq, ih]

theorem encItem_eid (e : Eid) : encItem (eidItem e) = e.enc := by
  cases e with
  | dtnNone => simp [eidItem, encItem, encItems, Eid.enc, rfcHead_eq, encArrHead, encUint]
  | dtn ssp => simp [eidItem, encItem, encItems, Eid.enc, rfcHead_eq, encArrHead, encUint, encTstr]
  | ipn ps =>
    simp [eidItem, encItem, encItems, Eid.enc, rfcHead_eq, encArrHead, encUint, encItems_uints]

theorem encItem_optBstr (o : Option Bytes) : encItem (optBstrItem o) = encOptBstr o := by
  cases o <;> simp [optBstrItem, encItem, encOptBstr, encNull, encBstr, rfcHead_eq]

theorem encItem_primary (p : Primary) : encItem (primaryItem p) = p.enc := by
  unfold primaryItem Primary.enc Primary.fields Primary.count
  by_cases hf : p.flags % 2 = 1 <;> by_cases hc : p.crcType = 0 <;>
    simp [hf, hc, isFragment, encItem, encItems, encItem_eid, encItem_optBstr,
      rfcHead_eq, encArrHead, encUint, Timestamp.enc]

theorem encItem_canonical (c : Canonical) : encItem (canonicalItem c) = c.enc := by
  unfold canonicalItem Canonical.enc Canonical.fields Canonical.count
  by_cases hc : c.crcType = 0 <;>
    simp [hc, encItem, encItems, encItem_optBstr, rfcHead_eq, encArrHead, encUint]

theorem encItems_canonicals (cs : List Canonical) :
    encItems (cs.map canonicalItem) = encBlocks cs := by
  induction cs with
  | nil => simp [encItems, encBlocks]
  | cons c cs ih => simp [encItems, encBlocks, encItem_canonical, ih]

theorem rfcEncode_eq (b : Bundle) : rfcEncode b = b.enc := by
  simp [rfcEncode, Bundle.enc, encItem_primary, encItems_canonicals]

theorem rdHead_eq (b : Bytes) : rdHead b = decHead b := by
  cases b with
  | nil => rfl
  | cons x r =>
    simp only [rdHead, decHead]
    by_cases h0 : x.toNat % 32 < 24
    · simp only [h0, if_true]
    · simp only [h0, if_false]
      by_cases h24 : x.toNat % 32 = 24
      · simp only [h24, if_true]
        rcases r with _ | ⟨a, r⟩ <;> simp [beNat]
      · simp only [h24, if_false]
        by_cases h25 : x.toNat % 32 = 25
        · simp only [h25, if_true]
          rcases r with _ | ⟨a, _ | ⟨b, r⟩⟩ <;> simp [beNat]
        · simp only [h25, if_false]
          by_cases h26 : x.toNat % 32 = 26
          · simp only [h26, if_true]
            rcases r with _ | ⟨a, _ | ⟨b, _ | ⟨c, _ | ⟨d, r⟩⟩⟩⟩ <;> simp [beNat]
          · simp only [h26, if_false]
            by_cases h27 : x.toNat % 32 = 27
            · simp only [h27, if_true]
              rcases r with _ | ⟨a, _ | ⟨b, _ | ⟨c, _ | ⟨d, _ | ⟨e, _ | ⟨f, _ | ⟨g, _ | ⟨h, r⟩⟩⟩⟩⟩⟩⟩⟩ <;>
                simp [beNat]
            · simp [h27]

theorem rdUint_eq (b : Bytes) : rdUint b = decUint b := by
  simp only [rdUint, decUint, rdHead_eq]
  rcases decHead b with _ | ⟨_ | mt, n, r⟩ <;> rfl

theorem rdUint_enc (n : Nat) (r : Bytes) (h : n < 2 ^ 64) : rdUint (encUint n ++ r) = some (n, r) := by
  rw [rdUint_eq, decUint_enc n r h]

theorem rdBstr_enc (d r : Bytes) (h : d.length < 2 ^ 64) :
    rdBstr (encBstr d ++ r) = some (d.length, r) := by
  simp [rdBstr, rdHead_eq, encBstr, List.append_assoc, decHead_head 2 d.length (d ++ r) (by omega) h]

def Skips (n : Nat) (b R : Bytes) : Prop := ∃ f, skipItems f n b = some R

/-- Every step consumes an octet, so the number of octets is enough fuel. -/
theorem Skips.fuel {n F : Nat} {b R : Bytes} (h : Skips n b R) (hF : b.length ≤ F) :
    skipItems F n b = some R := by
  obtain ⟨f, h⟩ := h
  induction f generalizing F n b with
  | zero => cases n with
    | zero => simpa [skipItems] using h
    | succ n => simp [skipItems] at h
  | succ f ih =>
    cases n with
    | zero => simpa [skipItems] using h
    | succ n =>
      cases hr : rdHead b with
      | none => simp [skipItems, hr] at h
      | some t =>
        obtain ⟨mt, arg, r⟩ := t
        have hlt := (decHead_spec _ _ _ _ ((rdHead_eq b).symm.trans hr)).2
        have hd : (r.drop arg).length ≤ r.length := by simp
        obtain ⟨F, rfl⟩ : ∃ k, F = k + 1 := ⟨F - 1, by omega⟩
        simp only [skipItems, hr] at h ⊢
        revert h
        -- every branch is `none` or the recursive call, with the same arguments on both sides
        repeat' split
        all_goals first | exact id | exact fun h => ih (by omega) h

theorem Skips.uint {n v : Nat} {r R : Bytes} (h : Skips n r R) (hv : u64 v = true) :
    Skips (n + 1) (encUint v ++ r) R := by
  obtain ⟨f, h⟩ := h
  exact ⟨f + 1, by
    simpa [skipItems, rdHead_eq, encUint, decHead_head 0 v r (by omega) ((u64_iff _).1 hv)] using h⟩

theorem Skips.arr {n k : Nat} {r R : Bytes} (h : Skips (n + k) r R) (hk : u64 k = true) :
    Skips (n + 1) (encArrHead k ++ r) R := by
  obtain ⟨f, h⟩ := h
  exact ⟨f + 1, by
    simpa [skipItems, rdHead_eq, encArrHead, decHead_head 4 k r (by omega) ((u64_iff _).1 hk)] using h⟩

theorem Skips.tstr {n : Nat} {d r R : Bytes} (h : Skips n r R) (hd : u64 d.length = true) :
    Skips (n + 1) (encTstr d ++ r) R := by
  obtain ⟨f, h⟩ := h
  have hl := (u64_iff _).1 hd
  exact ⟨f + 1, by
    simpa [skipItems, rdHead_eq, encTstr, List.append_assoc,
      decHead_head 3 d.length (d ++ r) (by omega) hl] using h⟩

theorem Skips.natlist {n : Nat} {r R : Bytes} (h : Skips n r R) {ps : List Nat}
    (hp : ps.all u64 = true) : Skips (n + ps.length) (encNatList ps ++ r) R := by
  induction ps with
  | nil => exact h
  | cons p ps ih =>
    simp only [List.all_cons, Bool.and_eq_true] at hp
    simp only [encNatList, List.append_assoc]
    exact (ih hp.2).uint hp.1

theorem Skips.eid {n : Nat} {r R : Bytes} (h : Skips n r R) {e : Eid} (he : sizeEidB e = true) :
    Skips (n + 1) (e.enc ++ r) R := by
  cases e with
  | dtnNone =>
    simp only [Eid.enc, List.append_assoc]
    exact .arr (.uint (.uint h rfl) rfl) rfl
  | dtn ssp =>
    simp only [Eid.enc, List.append_assoc]
    exact .arr (.uint (.tstr h he) rfl) rfl
  | ipn ps =>
    simp only [sizeEidB, Bool.and_eq_true] at he
    simp only [Eid.enc, List.append_assoc]
    exact .arr (.uint (.arr (.natlist h he.2) he.1.2) rfl) rfl

theorem Skips.ts {n : Nat} {r R : Bytes} (h : Skips n r R) {t : Timestamp}
    (h1 : u64 t.time = true) (h2 : u64 t.seq = true) : Skips (n + 1) (t.enc ++ r) R := by
  simp only [Timestamp.enc, List.append_assoc]
  exact .arr (.uint (.uint h h2) h1) rfl

theorem crcFieldOk_cases {t : Nat} {o : Option Bytes} (ht : t ≤ 2) (h : crcFieldOk t o = true) :
    (t = 0 ∧ o = none) ∨ (t ≠ 0 ∧ ∃ d, o = some d ∧ d.length = 2 * t) := by
  cases o with
  | none => left; simpa [crcFieldOk] using h
  | some d =>
    right
    simp only [crcFieldOk, Bool.and_eq_true, bne_iff_ne, ne_eq, beq_iff_eq] at h
    refine ⟨h.1, d, rfl, ?_⟩
    have : t = 1 ∨ t = 2 := by omega
    rcases this with rfl | rfl <;> simpa [crcWidth] using h.2

/-- The end of both block shapes: the CRC slot as the recogniser reads it; `k` is what the caller
    returns with the rest. -/
theorem shapeCrcSlot {α : Type} (k : Bytes → α) {t : Nat} {o : Option Bytes} (r : Bytes) (ht : t ≤ 2)
    (hk : crcFieldOk t o = true) :
    (if t = 0 then some (k ((if (t != 0) = true then encOptBstr o else []) ++ r))
     else match rdBstr ((if (t != 0) = true then encOptBstr o else []) ++ r) with
       | none => none
       | some (len, r5) => if len = 2 * t then some (k r5) else none) = some (k r) := by
  rcases crcFieldOk_cases ht hk with ⟨h0, _⟩ | ⟨h0, v, hv, hvl⟩
  · simp [h0]
  · have hvl' : v.length < 2 ^ 64 := by omega
    simp [h0, hv, encOptBstr, rdBstr_enc _ _ hvl', hvl]

theorem shapeCanonical_enc (c : Canonical) (r : Bytes) (h : wfCanonical c = true)
    (hb : c.btsd.isSome = true) (hk : crcFieldOk c.crcType c.crc = true) :
    shapeCanonical (c.enc ++ r) = some (c.typeCode, r) := by
  obtain ⟨ht, hn, hf, hc, hbt, _⟩ := wfCanonical_iff.1 h
  obtain ⟨d, hd⟩ := Option.isSome_iff_exists.1 hb
  have hdl : d.length < 2 ^ 64 := (u64_iff _).1 (by simpa [hd, wfOptBytes] using hbt)
  have hc' : ¬ (c.crcType > 2) := by omega
  have hcnt : c.count = 5 + (if c.crcType = 0 then 0 else 1) := by
    unfold Canonical.count
    by_cases h0 : c.crcType = 0 <;> simp [h0]
  have hcount : c.count < 2 ^ 64 := by
    have := c.count_range
    omega
  simp only [Canonical.enc, Canonical.fields, List.append_assoc, shapeCanonical, rdHead_eq, hd,
    show encOptBstr (some d) = encBstr d from rfl, encArrHead,
    decHead_head 4 c.count _ (by omega) hcount, rdUint_enc _ _ ((u64_iff _).1 ht),
    rdUint_enc _ _ ((u64_iff _).1 hn), rdUint_enc _ _ ((u64_iff _).1 hf),
    rdUint_enc c.crcType _ (by omega), rdBstr_enc _ _ hdl, hc', if_false]
  simp only [hcnt, ne_eq, not_true_eq_false, if_false]
  exact shapeCrcSlot (fun r => (c.typeCode, r)) r hc hk

/-- the five (or seven) items between the CRC type and the CRC field of a primary block -/
theorem skip_mid (d s q : Eid) (ts : Timestamp) (l o t : Nat) (c : Bool) (R : Bytes)
    (hd : sizeEidB d = true) (hs : sizeEidB s = true) (hq : sizeEidB q = true)
    (ht1 : u64 ts.time = true) (ht2 : u64 ts.seq = true) (hl : u64 l = true)
    (ho : u64 o = true) (ht : u64 t = true) :
    Skips (5 + (if c then 2 else 0))
      (d.enc ++ (s.enc ++ (q.enc ++ (ts.enc ++ (encUint l ++
        ((if c then encUint o ++ encUint t else []) ++ R)))))) R := by
  have h0 : Skips 0 R R := ⟨0, rfl⟩
  cases c with
  | true =>
    simp only [if_true, List.append_assoc]
    exact ((((((h0.uint ht).uint ho).uint hl).ts ht1 ht2).eid hq).eid hs).eid hd
  | false => exact ((((h0.uint hl).ts ht1 ht2).eid hq).eid hs).eid hd

theorem shapePrimary_enc (p : Primary) (r : Bytes) (h : wfPrimary p = true)
    (hver : p.version = 7) (hk : crcFieldOk p.crcType p.crc = true) :
    shapePrimary (p.enc ++ r) = some r := by
  obtain ⟨hv, hf, hc, hd, hs, hr, ht, hq, hl, hfr, _⟩ := wfPrimary_iff.1 h
  have hcr := p.count_range
  have hcount : p.count < 2 ^ 64 := by omega
  have hrange : ¬ (p.count < 8 ∨ 11 < p.count) := by omega
  have hc' : ¬ (p.crcType > 2) := by omega
  -- fragment fields are 64-bit in either case
  have ho : u64 p.fragOff = true ∧ u64 p.totalLen = true := by
    cases hfv : isFragment p.flags <;> simp only [hfv, if_true, Bool.false_eq_true, if_false,
      Bool.and_eq_true, beq_iff_eq] at hfr
    · rw [hfr.1, hfr.2]; exact ⟨by decide, by decide⟩
    · exact hfr
  have hcnt : p.count =
      8 + (if isFragment p.flags = true then 2 else 0) + (if p.crcType = 0 then 0 else 1) := by
    unfold Primary.count
    by_cases h2 : p.crcType = 0 <;> simp [h2]
  have hfragif : (if p.flags % 2 = 1 then 2 else 0) = (if isFragment p.flags = true then 2 else 0) := by
    by_cases h1 : p.flags % 2 = 1 <;> simp [h1, isFragment]
  have hsk := fun (R : Bytes) => (skip_mid p.dest p.src p.rpt p.ts p.lifetime p.fragOff p.totalLen
    (isFragment p.flags) R (wfEid_size hd) (wfEid_size hs) (wfEid_size hr) ht hq hl ho.1 ho.2).fuel
      (Nat.le_refl _)
  simp only [Primary.enc, Primary.fields, List.append_assoc, shapePrimary, rdHead_eq, encArrHead,
    decHead_head 4 p.count _ (by omega) hcount, hrange, if_false,
    rdUint_enc _ _ ((u64_iff _).1 hf),
    rdUint_enc p.crcType _ (by omega), rdUint_enc 7 _ (by omega), hver, hc', ne_eq,
    not_true_eq_false, hfragif, hsk]
  simp only [hcnt, not_true_eq_false, if_false]
  exact shapeCrcSlot id r hc hk

/-- invariant of `shapeBlocks`: what is still required of the remaining blocks given the previous type -/
def okSeq (last : Option Nat) : List Canonical → Bool
  | [] => last == some 1
  | c :: cs => last != some 1 && payloadLast (c :: cs)

theorem okSeq_cons {last : Option Nat} {c : Canonical} {cs : List Canonical}
    (h : okSeq last (c :: cs) = true) :
    (last == some 1) = false ∧ okSeq (some c.typeCode) cs = true := by
  simp only [okSeq, Bool.and_eq_true] at h
  refine ⟨by simpa [bne] using h.1, ?_⟩
  cases cs with
  | nil => simpa [okSeq, payloadLast] using h.2
  | cons c' cs' => simpa [okSeq, payloadLast] using h.2

theorem shapeBlocks_enc (cs : List Canonical) (last : Option Nat) (fuel : Nat) (hf : cs.length < fuel)
    (h : cs.all (fun c => wfCanonical c && (c.btsd.isSome && crcFieldOk c.crcType c.crc)) = true)
    (hok : okSeq last cs = true) :
    shapeBlocks fuel last (encBlocks cs ++ [0xff]) = true := by
  induction cs generalizing fuel last with
  | nil =>
    cases fuel with
    | zero => simp at hf
    | succ f =>
      simp only [okSeq] at hok
      simp [encBlocks, shapeBlocks, hok]
  | cons c cs ih =>
    cases fuel with
    | zero => simp at hf
    | succ f =>
      simp only [List.all_cons, Bool.and_eq_true] at h
      simp only [List.length_cons] at hf
      obtain ⟨⟨hw, hb, hk⟩, hrest⟩ := h
      obtain ⟨hlast, hnext⟩ := okSeq_cons hok
      obtain ⟨x, t, hx, hne⟩ := Canonical.enc_cons c
      have hd := shapeCanonical_enc c (encBlocks cs ++ [0xff]) hw hb hk
      simp only [encBlocks, List.append_assoc]
      rw [hx] at hd ⊢
      simp only [List.cons_append, shapeBlocks, hne, hlast] at hd ⊢
      simp only [Bool.false_eq_true, if_false, hd]
      exact ih _ _ (by omega) hrest hnext

theorem rfc9171Shape_enc (b : Bundle) (h : rfcWf b = true) : rfc9171Shape b.enc = true := by
  simp only [rfcWf, wf, Bool.and_eq_true, beq_iff_eq] at h
  obtain ⟨⟨⟨⟨⟨hp, hcs⟩, hver⟩, hk⟩, hall⟩, hpl⟩ := h
  have hsp := shapePrimary_enc b.primary (encBlocks b.blocks ++ [0xff]) hp hver hk
  simp only [Bundle.enc, List.append_assoc, List.cons_append, List.nil_append, rfc9171Shape, hsp]
  apply shapeBlocks_enc
  · have := encBlocks_length_ge b.blocks
    simp only [List.length_append, List.length_cons, List.length_nil]; omega
  · rw [List.all_eq_true] at hcs hall ⊢
    intro c hc
    have h1 := hcs c hc
    have h2 := hall c hc
    simp only [Bool.and_eq_true] at h2 ⊢
    exact ⟨h1, h2.1, h2.2⟩
  · cases hb : b.blocks with
    | nil => rw [hb] at hpl; simp [payloadLast] at hpl
    | cons c cs => rw [hb] at hpl; simp [okSeq, hpl]

theorem forall_u8 (P : UInt8 → Bool) (h : ∀ n, n < 256 → P (UInt8.ofNat n) = true) (c : UInt8) :
    P c = true := by
  have := h c.toNat c.toNat_lt
  simpa using this

theorem nameChar_facts {c : UInt8} (h : isNameChar c = true) :
    (!isDelim c) = true ∧ (!oddAuth c) = true ∧ (!isQF c) = true
      ∧ (c != 9 && c != 10 && c != 13) = true := by
  have := forall_u8 (fun c => !isNameChar c
    || (!isDelim c && !oddAuth c && !isQF c && (c != 9 && c != 10 && c != 13))) (by decide +kernel) c
  simpa [h, and_assoc] using this

theorem vchar_facts {c : UInt8} (h : isVchar c = true) : (c != 9 && c != 10 && c != 13) = true := by
  have := forall_u8 (fun c => !isVchar c || (c != 9 && c != 10 && c != 13)) (by decide +kernel) c
  simpa [h] using this

theorem normSsp_rfc (name dm : Bytes) (hn : ∀ c ∈ name, isNameChar c = true) (hne : name ≠ [])
    (hd : ∀ c ∈ dm, isVchar c = true) :
    normSsp ([0x2f, 0x2f] ++ (name ++ 0x2f :: dm)) = some ([0x2f, 0x2f] ++ (name ++ 0x2f :: dm)) := by
  have fN := fun c hc => nameChar_facts (hn c hc)
  have hstrip : stripTRN ([0x2f, 0x2f] ++ (name ++ 0x2f :: dm)) = [0x2f, 0x2f] ++ (name ++ 0x2f :: dm) := by
    rw [stripTRN, List.filter_eq_self]
    simp only [List.forall_mem_append, List.forall_mem_cons]
    exact ⟨⟨by decide, by decide, nofun⟩, fun c hc => (fN c hc).2.2.2, by decide,
      fun c hc => vchar_facts (hd c hc)⟩
  have htw : (name ++ 0x2f :: dm).takeWhile (fun c => !isDelim c) = name := by
    rw [List.takeWhile_append_of_pos (fun c hc => (fN c hc).1),
      List.takeWhile_cons_of_neg (by decide), List.append_nil]
  have hdw : (name ++ 0x2f :: dm).dropWhile (fun c => !isDelim c) = 0x2f :: dm := by
    rw [List.dropWhile_append_of_pos (fun c hc => (fN c hc).1),
      List.dropWhile_cons_of_neg (by decide)]
  have hany : name.any oddAuth = false := by
    rw [List.any_eq_false]
    intro c hc
    simpa using (fN c hc).2.1
  have hemp : name.isEmpty = false := by
    cases name with
    | nil => exact absurd rfl hne
    | cons => rfl
  have htail : tailQF ([0x2f, 0x2f] ++ (name ++ 0x2f :: dm)) = tailQF dm := by
    have h2 : ∀ c ∈ ([0x2f, 0x2f] : Bytes), (!isQF c) = true := by decide
    rw [tailQF, List.dropWhile_append_of_pos h2,
      List.dropWhile_append_of_pos (fun c hc => (fN c hc).2.2.1),
      List.dropWhile_cons_of_pos (by decide), tailQF]
  have hcut : cutQF (0x2f :: dm) = 0x2f :: cutQF dm := by
    simp [cutQF, show isQF 0x2f = false by decide]
  unfold normSsp
  simp only [hstrip, htail]
  simp only [List.take_append_of_le_length (show 2 ≤ ([0x2f, 0x2f] : Bytes).length by simp), List.take,
    List.drop_append_of_le_length (show 2 ≤ ([0x2f, 0x2f] : Bytes).length by simp), List.drop,
    beq_self_eq_true, if_true, htw, hdw, hany, hemp, Bool.false_eq_true, if_false, hcut,
    List.head?_cons, List.nil_append]
  simp only [cutQF, tailQF, List.append_assoc, List.cons_append, List.takeWhile_append_dropWhile]

theorem rfcEid_wf (e : Eid) (h : rfcEid e = true) : wfEid e = true := by
  cases e with
  | dtnNone => decide
  | ipn ps =>
    simp only [rfcEid, Bool.and_eq_true, beq_iff_eq] at h
    have hne : ps.isEmpty = false := by
      cases ps with
      | nil => simp at h
      | cons => rfl
    simp [wfEid, normEid, hne, h.1, h.2, u64]
  | dtn ssp =>
    simp only [rfcEid, Bool.and_eq_true, beq_iff_eq, Bool.not_eq_true'] at h
    obtain ⟨⟨hlen, htake⟩, ⟨hname, hhead⟩, hall⟩ := h
    have hsplit : ssp = [0x2f, 0x2f] ++ ((ssp.drop 2).takeWhile isNameChar
        ++ 0x2f :: ((ssp.drop 2).dropWhile isNameChar).tail) := by
      have h1 : ssp = ssp.take 2 ++ ssp.drop 2 := (List.take_append_drop 2 ssp).symm
      have h2 : ssp.drop 2 = (ssp.drop 2).takeWhile isNameChar ++ (ssp.drop 2).dropWhile isNameChar :=
        (List.takeWhile_append_dropWhile).symm
      have h3 : (ssp.drop 2).dropWhile isNameChar
          = 0x2f :: ((ssp.drop 2).dropWhile isNameChar).tail := by
        cases hd : (ssp.drop 2).dropWhile isNameChar with
        | nil => rw [hd] at hhead; simp at hhead
        | cons x xs => rw [hd] at hhead; simp at hhead; simp [hhead]
      rw [htake] at h1
      refine h1.trans ?_
      congr 1
      rw [← h3]; exact h2
    have hnorm := normSsp_rfc ((ssp.drop 2).takeWhile isNameChar)
      (((ssp.drop 2).dropWhile isNameChar).tail)
      (List.all_eq_true.1 List.all_takeWhile)
      (by intro hnil; rw [hnil] at hname; simp at hname)
      (by rw [List.all_eq_true] at hall; exact hall)
    rw [← hsplit] at hnorm
    have hnn : (ssp == sspNone) = false := by
      rw [hsplit]; simp [sspNone]
    simp [wfEid, normEid, hnn, hnorm, hlen]

end Bp
end DtnVerif
