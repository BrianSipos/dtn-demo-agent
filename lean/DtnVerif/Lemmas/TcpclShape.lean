/-
  Every signal the endpoint emits, and every value it returns, has the argument kinds of its
  declared D-Bus signature (`Val` is type-faithful: str / uint / bytes / list of str / bool).
  The walk through the model is done once, for any test on outputs that accepts what `Passes` says.
-/
import DtnVerif.Lemmas.TcpclOuts
namespace DtnVerif
namespace Tcpcl

def Val.isStr : Val → Bool | .str _ => true | _ => false
def Val.isNat : Val → Bool | .nat _ => true | _ => false

/-- argument kinds per signal, transcribed from the declared signatures
    (s / st / st / sts / sv / st / sts; pinned against Facts in Props/C18) -/
def sigOK (name : String) (args : List Val) : Bool :=
  if name = "session_state_changed" then (match args with | [a] => a.isStr | _ => false)
  else if name = "send_bundle_started" ∨ name = "send_bundle_intermediate" ∨ name = "recv_bundle_intermediate" then
    (match args with | [a, b] => a.isStr && b.isNat | _ => false)
  else if name = "send_bundle_finished" ∨ name = "recv_bundle_finished" then
    (match args with | [a, b, c] => a.isStr && b.isNat && c.isStr | _ => false)
  else if name = "recv_bundle_started" then
    (match args with | [a, b] => a.isStr && (b.isStr || b.isNat) | _ => false)
  else false

def Out.shapeOK : Out → Bool
  | .sig n a => sigOK n a
  | _ => true

def shapes (os : List Out) : Bool := os.all Out.shapeOK

@[simp] theorem shapes_nil : shapes [] = true := rfl
@[simp] theorem shapes_append (a b : List Out) : shapes (a ++ b) = (shapes a && shapes b) := List.all_append
@[simp] theorem shapes_cons (o : Out) (os : List Out) : shapes (o :: os) = (o.shapeOK && shapes os) := List.all_cons

/-- `p` accepts every well-shaped output, except that with private extensions off (`x = false`) it need
    not accept `escaped`. Every output of an endpoint with `cfg.privExt = x` passes such a test
    (`all_step`): the only exception that escapes a callback is `send_xfer_data` refusing extension items
    outside START. `shapes` and the absence of `escaped` are the two instances. -/
def Passes (x : Bool) (p : Out → Bool) : Prop :=
  ∀ o, o.shapeOK = true → (x = false → ∀ w, o ≠ .escaped w) → p o = true

section
variable {x : Bool} {p : Out → Bool}

theorem Passes.sig (hp : Passes x p) {n : String} {a : List Val} (h : sigOK n a = true) : p (.sig n a) = true :=
  hp _ h (fun _ _ h => nomatch h)
theorem Passes.wire (hp : Passes x p) (b : Bytes) : p (.wire b) = true := hp _ rfl (fun _ _ h => nomatch h)
theorem Passes.closed (hp : Passes x p) : p .closed = true := hp _ rfl (fun _ _ h => nomatch h)
theorem Passes.raised (hp : Passes x p) (w : String) : p (.raised w) = true := hp _ rfl (fun _ _ h => nomatch h)
theorem Passes.ret (hp : Passes x p) (v : Val) : p (.ret v) = true := hp _ rfl (fun _ _ h => nomatch h)

theorem Passes.txFinished (hp : Passes x p) (t : String) (n : Nat) (r : String) :
    p (.sig "send_bundle_finished" [.str t, .nat n, .str r]) = true := hp.sig rfl

theorem Passes.setState (hp : Passes x p) (e : Ep) (s : String) : (setState e s).2.all p = true :=
  all_setState e s (hp.sig rfl)

theorem all_flush (hp : Passes x p) (e : Ep) : (flushPendStart e).2.all p = true := by
  unfold flushPendStart
  rw [List.all_map]
  exact List.all_eq_true.mpr (fun _ _ => hp.txFinished _ _ _)

theorem all_doClose (hp : Passes x p) (e : Ep) : (doClose e).2.all p = true := by
  unfold doClose; split
  · rfl
  · exact all_app (all_flush hp e) (all_cons hp.closed rfl)

theorem all_checkSessTerm (hp : Passes x p) (e : Ep) : (checkSessTerm e).2.all p = true := by
  unfold checkSessTerm; split
  · exact all_doClose hp e
  · rfl

theorem all_sendSessTerm (hp : Passes x p) (e : Ep) (r : Nat) (b : Bool) : (sendSessTerm e r b).2.all p = true := by
  unfold sendSessTerm
  split
  · exact all_cons (hp.raised _) rfl
  · split
    · exact all_cons (hp.raised _) rfl
    · exact all_app (hp.setState _ _) (all_flush hp _)

theorem all_sendSegment (hp : Passes x p) (e : Ep) (it : TxItem) (s : Nat) (hx : e.cfg.privExt = x) :
    (sendSegment e it s).2.1.all p = true := by
  unfold sendSegment
  simp only []
  split
  · next h =>
    refine all_cons (hp _ rfl ?_) rfl
    intro hf
    rw [hx, hf, Bool.and_false] at h
    cases h
  · split <;> rfl

theorem all_processQueue (hp : Passes x p) (e : Ep) (hx : e.cfg.privExt = x) : (processQueue e).2.1.all p = true := by
  unfold processQueue
  split
  · exact all_sendSegment hp e _ _ hx
  · split
    · rfl
    · split
      · exact all_app (all_flush hp e) (all_checkSessTerm hp _)
      · split
        · rfl
        · exact all_cons (hp.sig rfl) (all_sendSegment hp _ _ _ hx)

theorem all_writeConn (hp : Passes x p) (e : Ep) (n : Nat) (up : Bool) : (writeConn e n up).2.all p = true := by
  unfold writeConn
  split
  · split
    · exact all_checkSessTerm hp e
    · rfl
  · simp only []
    split
    · rfl
    · split
      · exact all_cons (hp.wire _) (all_checkSessTerm hp _)
      · exact all_cons (hp.wire _) rfl

theorem all_segAccept (hp : Passes x p) (e : Ep) (f t : Nat) (c d : Bytes) (o : List Out) (ho : o.all p = true) :
    (segAccept e f t c d o).2.all p = true := by
  unfold segAccept
  simp only []
  split
  · exact all_app (all_app ho (all_cons (hp.sig rfl) rfl)) (all_checkSessTerm hp _)
  · exact all_app ho (all_cons (hp.sig rfl) rfl)

theorem all_handleMsg (hp : Passes x p) (e : Ep) (m : Msg) : (handleMsg e m).2.all p = true := by
  apply handleMsg_cases e (P := fun _ r => r.2.all p = true)
  case reject | keepalive | msgReject => intros; rfl
  case contact | sessInit => intros; exact hp.setState _ _
  case sessTerm =>
    intro _ r _
    refine all_app (all_app ?_ (all_flush hp _)) (all_checkSessTerm hp _)
    split
    · exact all_sendSessTerm hp _ r true
    · rfl
  case segStart => intros; exact all_segAccept hp _ _ _ _ _ _ (all_cons (hp.sig rfl) rfl)
  case segNext => intros; exact all_segAccept hp _ _ _ _ _ _ rfl
  case ackEnd | refuse => intros; exact all_cons (hp.txFinished _ _ _) (all_checkSessTerm hp _)
  case ackMid => intros; exact all_cons (hp.sig rfl) rfl

theorem all_handleMsgs (hp : Passes x p) (ms : List Msg) (e : Ep) : (handleMsgs e ms).2.all p = true := by
  induction ms generalizing e with
  | nil => rfl
  | cons m ms ih =>
    unfold handleMsgs
    split
    · rfl
    · exact all_app (all_handleMsg hp _ m) (ih _)

theorem all_recvRaw (hp : Passes x p) (e : Ep) (c : Bytes) : (recvRaw e c).2.all p = true := by
  unfold recvRaw
  simp only []
  split
  · exact all_app (all_handleMsgs hp _ _) (all_doClose hp _)
  · exact all_handleMsgs hp _ _

theorem all_step (hp : Passes x p) (e : Ep) (ev : Ev) (hx : e.cfg.privExt = x) : (step e ev).2.all p = true := by
  apply step_cases e (P := fun _ r => r.2.all p = true)
  case idle | advance | pqClosed | kaFire | modulate => intros; rfl
  case query | send => intros; exact all_cons (hp.ret _) rfl
  case pop =>
    intro t
    unfold popRx; split
    · exact all_cons (hp.ret _) rfl
    · exact all_cons (hp.raised _) rfl
  case start => intros; exact hp.setState _ _
  case terminate => intro _ r; exact all_sendSessTerm hp e r false
  case close | rxEof => intros; exact all_doClose hp e
  case procQueue => intros; exact all_processQueue hp { e with pqPend := false } hx
  case pump => intros; exact all_writeConn hp _ _ _
  case rx => intro _ c; exact all_recvRaw hp e c
  case idleClose => intros; exact all_doClose hp _
  case idleTerm => intros; exact all_sendSessTerm hp _ _ _

end

theorem sh_step (e : Ep) (ev : Ev) : shapes (step e ev).2 = true :=
  all_step (x := e.cfg.privExt) (fun _ h _ => h) e ev rfl

theorem sh_run (evs : List Ev) (e : Ep) : ∀ os ∈ (run e evs).2, shapes os = true :=
  run_outs (J := fun _ _ => True) (fun e ev _ _ => ⟨trivial, sh_step e ev⟩) evs e trivial

end Tcpcl
end DtnVerif
