/-
  What the ideal receiver `rxSpec` (Model/TcpclSpec.lean) does with one more message, for both sides of the
  endpoint proofs: the sender's (what the peer will make of `emitted`) and the receiver's (what `processed` amounts to).
-/
import DtnVerif.Model.TcpclSpec
namespace DtnVerif
namespace Tcpcl

theorem rxSpec_snoc (a : List Msg) (m : Msg) : rxSpec (a ++ [m]) = rxSpecStep (rxSpec a) m := by
  simp [rxSpec, List.foldl_append]

theorem rxSpecStep_seg (r : RxSpec) (f t : Nat) (x d cur : Bytes) (hin : r.inSess = true)
    (hc : if hasStart f then cur = [] else r.cur = some (t, cur)) :
    rxSpecStep r (.xferSegment f t x d) =
      if hasEnd f then { r with cur := none, done := r.done ++ [(t, cur ++ d)] } else { r with cur := some (t, cur ++ d) } := by
  split at hc
  · rename_i hst
    simp [rxSpecStep, hin, hst, hc]
  · rename_i hst
    simp [rxSpecStep, hin, hst, hc]

end Tcpcl
end DtnVerif
