/-
  G-frame: the messages an endpoint has processed are (a prefix of) the complete messages contained
  in the octets it has received, for every chunking of the stream (C07 lifted to the endpoint).
-/
import DtnVerif.Lemmas.TcpclRx
import DtnVerif.Lemmas.TcpclFeed
namespace DtnVerif
namespace Tcpcl

def FrameInv (e : Ep) : Prop :=
  (feed {} e.rxBytes).1 = e.rx ∧ e.processed <+: (feed {} e.rxBytes).2
    ∧ (e.closed = false → e.processed = (feed {} e.rxBytes).2)

/-- `FrameInv` reads the receive projection only, and asks for the equality of an open endpoint only -/
theorem frameInv_of_view {e e' : Ep} (h : e'.rxView = e.rxView)
    (hc : e'.closed = false → e.closed = false) (hi : FrameInv e) : FrameInv e' := by
  simp only [Ep.rxView, RxView.mk.injEq] at h
  obtain ⟨h1, _, _, _, h2, h3⟩ := h
  unfold FrameInv
  rw [h1, h2, h3]
  exact ⟨hi.1, hi.2.1, fun hcl => hi.2.2 (hc hcl)⟩

theorem handleMsgs_frame (ms : List Msg) (e : Ep) :
    (handleMsgs e ms).1.rx = e.rx ∧ (handleMsgs e ms).1.rxBytes = e.rxBytes
    ∧ (handleMsgs e ms).1.processed <+: e.processed ++ ms
    ∧ ((handleMsgs e ms).1.closed = false → (handleMsgs e ms).1.processed = e.processed ++ ms) := by
  induction ms generalizing e with
  | nil => simp [handleMsgs]
  | cons m ms ih =>
    unfold handleMsgs
    split
    · rename_i hc
      refine ⟨rfl, rfl, List.prefix_append _ _, ?_⟩
      intro h; rw [hc] at h; exact absurd h (by simp)
    · obtain ⟨h1, h2, h3⟩ := frame_handleMsg { e with rxMore := !ms.isEmpty || e.rx.dead } m
      obtain ⟨i1, i2, i3, i4⟩ := ih (handleMsg { e with rxMore := !ms.isEmpty || e.rx.dead } m).1
      refine ⟨by rw [i1, h2], by rw [i2, h3], ?_, ?_⟩
      · rw [h1] at i3; simpa [List.append_assoc] using i3
      · intro h; rw [i4 h, h1]; simp

theorem recvRaw_frame (e : Ep) (c : Bytes) :
    (recvRaw e c).1.rx = (feed e.rx c).1 ∧ (recvRaw e c).1.rxBytes = e.rxBytes ++ c
    ∧ (recvRaw e c).1.processed <+: e.processed ++ (feed e.rx c).2
    ∧ ((recvRaw e c).1.closed = false → (recvRaw e c).1.processed = e.processed ++ (feed e.rx c).2) := by
  obtain ⟨i1, i2, i3, i4⟩ := handleMsgs_frame (feed e.rx c).2 (rxEntry e c)
  unfold recvRaw
  simp only []
  split
  · -- the connection is closed on a bad contact header: only `closed` changes
    have hv := view_doClose { (handleMsgs (rxEntry e c) (feed e.rx c).2).1 with rxMore := false }
    have hp : (doClose _).1.processed = _ := congrArg RxView.processed hv
    refine ⟨(congrArg RxView.rx hv).trans i1, (congrArg RxView.rxBytes hv).trans i2, ?_,
      fun h => absurd ((closed_doClose _).symm.trans h) nofun⟩
    rw [hp]; exact i3
  · exact ⟨i1, i2, i3, i4⟩

theorem rxView_step_nonrx (e : Ep) (ev : Ev) (hne : ∀ c, ev ≠ .rx c) : (step e ev).1.rxView = e.rxView :=
  step_inv_nonrx (P := fun e' => e'.rxView = e.rxView) (fun _ _ _ t hk h => (rxView_tr t hk).trans h) e ev hne rfl

theorem frameInv_step (e : Ep) (ev : Ev) (hi : FrameInv e) : FrameInv (step e ev).1 := by
  cases hc : e.closed with
  | true =>
    obtain ⟨n, m, s, p, h⟩ := step_closed e ev hc
    rw [h]
    exact frameInv_of_view rfl id hi
  | false =>
    by_cases hrx : ∃ c, ev = .rx c
    · obtain ⟨c, rfl⟩ := hrx
      obtain ⟨h1, -, h3⟩ := hi
      obtain ⟨r1, r2, r3, r4⟩ := recvRaw_frame e c
      have hfeed := feed_append {} e.rxBytes c
      rw [h1] at hfeed
      rw [h3 hc] at r3 r4
      rw [step_rx e c hc]
      unfold FrameInv
      rw [r1, r2, hfeed]
      exact ⟨rfl, r3, r4⟩
    · exact frameInv_of_view (rxView_step_nonrx e ev fun c h => hrx ⟨c, h⟩) (fun _ => hc) hi

theorem frameInv_init (cfg : Cfg) : FrameInv { cfg := cfg } := by
  have h : feed {} ([] : Bytes) = ({}, []) := (feed_nil {}).trans (drain_need {} (probe_nil _))
  unfold FrameInv
  show (feed {} []).1 = {} ∧ [] <+: (feed {} []).2 ∧ (false = false → [] = (feed {} []).2)
  rw [h]
  exact ⟨rfl, List.prefix_refl _, fun _ => rfl⟩

theorem frameInv_run (evs : List Ev) (e : Ep) (hi : FrameInv e) : FrameInv (runEp e evs) :=
  run_inv frameInv_step evs e hi

end Tcpcl
end DtnVerif
