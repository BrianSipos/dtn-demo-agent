/-
  What the UDPCL and BTP-U receivers share. Both keep one reassembly entry per transfer key in an
  association list, and a message that is not about key `k` leaves `k`'s entry and `k`'s queue
  entries alone. So, seen from one transfer, the receiver is a small machine over the pair
  (entry of the transfer, what it has queued so far) that is driven by the messages of that
  transfer only. The reassembly arguments are made once, about that machine.
-/
namespace DtnVerif
namespace Keyed

section table
variable {K V : Type} [DecidableEq K]

def get (k : K) : List (K × V) → Option V
  | [] => none
  | (k', x) :: rest => if k' = k then some x else get k rest

def del (k : K) : List (K × V) → List (K × V)
  | [] => []
  | (k', x) :: rest => if k' = k then del k rest else (k', x) :: del k rest

theorem get_del (k k' : K) (l : List (K × V)) :
    get k (del k' l) = if k' = k then none else get k l := by
  induction l with
  | nil => simp only [del, get, ite_self]
  | cons e l ih =>
    obtain ⟨k2, x⟩ := e
    by_cases h2 : k2 = k'
    · simp only [del, get, h2, if_true, ih]
      split <;> rfl
    · simp only [del, get, h2, if_false, ih]
      by_cases h : k' = k
      · simp only [h, if_true, h ▸ h2, if_false]
      · simp only [h, if_false]

theorem get_cons_del (k k' : K) (x : V) (l : List (K × V)) :
    get k ((k', x) :: del k' l) = if k' = k then some x else get k l := by
  simp only [get, get_del]
  split <;> rfl

end table

theorem foldl_view {S E V M : Type} (step : S → E → S) (view : S → V) (mine : E → Option M)
    (stepK : V → M → V) (hother : ∀ s e, mine e = none → view (step s e) = view s)
    (hmine : ∀ s e m, mine e = some m → view (step s e) = stepK (view s) m) :
    ∀ (evs : List E) (s : S),
      view (evs.foldl step s) = (evs.filterMap mine).foldl stepK (view s) := by
  intro evs
  induction evs with
  | nil => intro s; rfl
  | cons e evs ih =>
    intro s
    rw [List.foldl_cons, ih]
    cases hm : mine e with
    | none => rw [List.filterMap_cons_none hm, hother s e hm]
    | some m => rw [List.filterMap_cons_some hm, List.foldl_cons, hmine s e m hm]

theorem filterMap_map_some {α β γ : Type} (f : α → β) (g : α → γ) (m : β → Option γ)
    (h : ∀ a, m (f a) = some (g a)) (l : List α) : (l.map f).filterMap m = l.map g := by
  rw [List.filterMap_map, show m ∘ f = some ∘ g from funext h, List.filterMap_eq_map]

theorem foldl_map_congr {α β γ S : Type} (f : α → β) (g : α → γ) (F : S → β → S) (G : S → γ → S) :
    ∀ (l : List α) (s : S), (∀ p ∈ l, ∀ s, F s (f p) = G s (g p)) →
      (l.map f).foldl F s = (l.map g).foldl G s := by
  intro l
  induction l with
  | nil => intro s _; rfl
  | cons p l ih =>
    intro s h
    rw [List.map_cons, List.foldl_cons, List.map_cons, List.foldl_cons, h p List.mem_cons_self,
      ih _ fun q hq => h q (List.mem_cons_of_mem _ hq)]

/-- How the receiver treats the messages `M` of one transfer: a missing entry stands for `fresh`,
    some messages are ignored (`skip`), the others update the entry, and an entry that has become
    `complete` is removed and `fin` of it is queued. -/
structure Machine (X M Q : Type) where
  fresh : M → X
  skip : X → M → Bool
  upd : X → M → X
  complete : X → Bool
  fin : X → Q

variable {X M Q R : Type}

def Machine.step (mc : Machine X M Q) (v : Option X × List Q) (m : M) : Option X × List Q :=
  if mc.skip (v.1.getD (mc.fresh m)) m then v
  else if mc.complete (mc.upd (v.1.getD (mc.fresh m)) m) then
    (none, v.2 ++ [mc.fin (mc.upd (v.1.getD (mc.fresh m)) m)])
  else (some (mc.upd (v.1.getD (mc.fresh m)) m), v.2)

/-- What makes the machine reassemble one particular transfer. `ok` is the invariant of its entry
    and `good` the messages that belong to it. Completion goes by marks: every message that is not
    skipped leaves its `mark` in the entry, a skipped one had left it before; a complete entry has
    a mark that is not `apart` from any `wanted` one; an entry whose marks are `enough` is
    complete, and queues `res`. -/
structure Spec (mc : Machine X M Q) (R : Type) where
  ok : X → Prop
  good : M → Prop
  marks : X → List R
  mark : M → R
  apart : R → R → Prop
  wanted : R → Prop
  enough : List R → Prop
  res : Q
  fresh_ok : ∀ m, good m → ok (mc.fresh m)
  fresh_marks : ∀ m, marks (mc.fresh m) = []
  upd_ok : ∀ x m, ok x → good m → mc.skip x m = false → ok (mc.upd x m)
  upd_marks : ∀ x m, marks (mc.upd x m) = mark m :: marks x
  skip_mark : ∀ x m, ok x → good m → mc.skip x m = true → mark m ∈ marks x
  not_apart_self : ∀ w, wanted w → ¬ apart w w
  fin_res : ∀ x, ok x → mc.complete x = true → mc.fin x = res
  missing : ∀ x w, ok x → wanted w → (∀ a ∈ marks x, apart a w) → mc.complete x = false
  enough_mono : ∀ l l', enough l → (∀ a ∈ l, a ∈ l') → enough l'
  complete_of_enough : ∀ x, ok x → enough (marks x) → mc.complete x = true

namespace Spec
variable {mc : Machine X M Q} (sp : Spec mc R)

def okV (v : Option X × List Q) : Prop := ∀ x, v.1 = some x → sp.ok x

def marksV (v : Option X × List Q) : List R := (v.1.map sp.marks).getD []

theorem okV_none (q : List Q) : sp.okV (none, q) := fun _ h => by cases h

theorem okV_some {x : X} (hx : sp.ok x) (q : List Q) : sp.okV (some x, q) :=
  fun _ h => by cases h; exact hx

theorem step_eq (v : Option X × List Q) (m : M) (hv : sp.okV v) (hm : sp.good m) :
    (mc.step v m = v ∧ sp.mark m ∈ sp.marksV v) ∨
    ∃ x, sp.ok x ∧ sp.marks x = sp.mark m :: sp.marksV v ∧
      mc.step v m = if mc.complete x = true then (none, v.2 ++ [sp.res]) else (some x, v.2) := by
  have hb : sp.ok (v.1.getD (mc.fresh m)) ∧ sp.marks (v.1.getD (mc.fresh m)) = sp.marksV v := by
    unfold marksV
    cases h : v.1 with
    | none => exact ⟨sp.fresh_ok m hm, sp.fresh_marks m⟩
    | some x => exact ⟨hv x h, rfl⟩
  cases hs : mc.skip (v.1.getD (mc.fresh m)) m with
  | true =>
    left
    exact ⟨by simp only [Machine.step, hs, if_true], hb.2 ▸ sp.skip_mark _ _ hb.1 hm hs⟩
  | false =>
    right
    have hx := sp.upd_ok _ _ hb.1 hm hs
    refine ⟨_, hx, by rw [sp.upd_marks, hb.2], ?_⟩
    simp only [Machine.step, hs, Bool.false_eq_true, if_false]
    cases hc : mc.complete (mc.upd (v.1.getD (mc.fresh m)) m) with
    | true => simp only [if_true, sp.fin_res _ hx hc]
    | false => simp only [Bool.false_eq_true, if_false]

theorem fold_dup (ms : List M) (v : Option X × List Q) (hv : sp.okV v) (hg : ∀ t ∈ ms, sp.good t) :
    ∃ n, (ms.foldl mc.step v).2 = v.2 ++ List.replicate n sp.res := by
  refine (ms.foldlRecOn mc.step
    (motive := fun u => sp.okV u ∧ ∃ n, u.2 = v.2 ++ List.replicate n sp.res)
    ⟨hv, 0, (List.append_nil _).symm⟩ ?_).2
  intro u ⟨hu, n, hn⟩ m hm
  rcases sp.step_eq u m hu (hg m hm) with ⟨h, _⟩ | ⟨x, hx, _, h⟩
  · rw [h]; exact ⟨hu, n, hn⟩
  · rw [h]
    cases mc.complete x with
    | true =>
      exact ⟨sp.okV_none _, n + 1, by rw [if_pos rfl, hn, List.append_assoc, List.replicate_succ']⟩
    | false => exact ⟨sp.okV_some hx _, n, hn⟩

theorem fold_missing {w : R} (hw : sp.wanted w) : ∀ (ms : List M) (v : Option X × List Q),
    sp.okV v → (∀ t ∈ ms, sp.good t) → (∀ t ∈ ms, sp.apart (sp.mark t) w) →
    (∀ a ∈ sp.marksV v, sp.apart a w) →
    (ms.foldl mc.step v).2 = v.2 ∧ sp.okV (ms.foldl mc.step v) ∧
      ∀ a, a ∈ sp.marksV (ms.foldl mc.step v) ↔ a ∈ ms.map sp.mark ++ sp.marksV v := by
  intro ms
  induction ms with
  | nil => intro v hv _ _ _; exact ⟨rfl, hv, fun a => Iff.rfl⟩
  | cons m ms ih =>
    intro v hv hg hd hvw
    have hg' : ∀ t ∈ ms, sp.good t := fun t ht => hg t (List.mem_cons_of_mem _ ht)
    have hd' : ∀ t ∈ ms, sp.apart (sp.mark t) w := fun t ht => hd t (List.mem_cons_of_mem _ ht)
    rw [List.foldl_cons]
    rcases sp.step_eq v m hv (hg m List.mem_cons_self) with ⟨h, hin⟩ | ⟨x, hx, hmx, h⟩
    · rw [h]
      obtain ⟨r1, r2, r3⟩ := ih v hv hg' hd' hvw
      refine ⟨r1, r2, fun a => (r3 a).trans ?_⟩
      simp only [List.map_cons, List.cons_append, List.mem_cons, List.mem_append]
      constructor
      · exact Or.inr
      · rintro (rfl | h')
        · exact Or.inr hin
        · exact h'
    · have hall : ∀ a ∈ sp.marks x, sp.apart a w := by
        intro a ha
        rw [hmx] at ha
        rcases List.mem_cons.mp ha with rfl | ha
        · exact hd m List.mem_cons_self
        · exact hvw a ha
      rw [h, sp.missing x w hx hw hall, if_neg Bool.false_ne_true]
      obtain ⟨r1, r2, r3⟩ := ih (some x, v.2) (sp.okV_some hx _) hg' hd' hall
      refine ⟨r1, r2, fun a => (r3 a).trans ?_⟩
      show a ∈ ms.map sp.mark ++ sp.marks x ↔ _
      simp only [hmx, List.map_cons, List.cons_append, List.mem_cons, List.mem_append,
        or_left_comm]

/-- All but the last message go by `fold_missing` with the mark of the last one. -/
theorem fold_reasm (ms : List M) (v : Option X × List Q) (hne : ms ≠ []) (hv : sp.okV v)
    (hg : ∀ t ∈ ms, sp.good t) (hw : ∀ t ∈ ms, sp.wanted (sp.mark t))
    (hpw : (ms.map sp.mark).Pairwise sp.apart)
    (hd : ∀ a ∈ sp.marksV v, ∀ t ∈ ms, sp.apart a (sp.mark t))
    (hen : sp.enough (ms.map sp.mark ++ sp.marksV v)) :
    ms.foldl mc.step v = (none, v.2 ++ [sp.res]) := by
  obtain ⟨pre, l, rfl⟩ : ∃ pre l, ms = pre ++ [l] :=
    ⟨_, _, (List.dropLast_concat_getLast hne).symm⟩
  have hl : l ∈ pre ++ [l] := List.mem_append_right _ List.mem_cons_self
  rw [List.map_append, List.pairwise_append] at hpw
  have hcross : ∀ a ∈ pre.map sp.mark, sp.apart a (sp.mark l) :=
    fun a ha => hpw.2.2 a ha _ List.mem_cons_self
  obtain ⟨h2, hok, hmk⟩ := sp.fold_missing (hw l hl) pre v hv
    (fun t ht => hg t (List.mem_append_left _ ht))
    (fun t ht => hcross _ (List.mem_map_of_mem ht)) (fun a ha => hd a ha l hl)
  rw [List.foldl_append, List.foldl_cons, List.foldl_nil]
  rcases sp.step_eq _ l hok (hg l hl) with ⟨_, hin⟩ | ⟨x, hx, hmx, hst⟩
  · exfalso
    apply sp.not_apart_self _ (hw l hl)
    rcases List.mem_append.mp ((hmk _).mp hin) with h | h
    · exact hcross _ h
    · exact hd _ h l hl
  · have hc : mc.complete x = true := by
      apply sp.complete_of_enough x hx
      apply sp.enough_mono _ _ hen
      intro a ha
      rw [hmx, List.mem_cons, hmk]
      simp only [List.map_append, List.map_cons, List.map_nil, List.mem_append, List.mem_cons,
        List.not_mem_nil, or_false] at ha ⊢
      rcases ha with (h | h) | h
      · exact Or.inr (Or.inl h)
      · exact Or.inl h
      · exact Or.inr (Or.inr h)
    rw [hst, if_pos hc, h2]

end Spec
end Keyed
end DtnVerif
