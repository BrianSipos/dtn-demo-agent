/-
  Every XFER_ACK an endpoint emits echoes a segment it processed: same flags, same transfer id,
  cumulative length of the transfer so far (as the ideal receiver counts it).
-/
import DtnVerif.Lemmas.TcpclRx
namespace DtnVerif
namespace Tcpcl

/-- the acknowledgement the ideal receiver in state `s` owes for message `m` (none if `m` is not an
    accepted segment): same flags, same transfer id, cumulative length -/
def ackOfStep (s : RxSpec) (m : Msg) : Option Msg :=
  match m with
  | .xferSegment flags tid _ data =>
    if !s.inSess then none else
    let cur : Option (Nat × Bytes) :=
      if hasStart flags then some (tid, [])
      else match s.cur with
        | some (t, d) => if t == tid then some (t, d) else none
        | none => none
    match cur with
    | none => none
    | some (_, d) => some (.xferAck flags tid (d ++ data).length)
  | _ => none

def echoOK (ps : List Msg) : Msg → Prop
  | .xferAck f t l => ∃ p m, p ++ [m] <+: ps ∧ ackOfStep (rxSpec p) m = some (.xferAck f t l)
  | _ => True

theorem echoOK_mono {ps : List Msg} (x : List Msg) {m : Msg} (h : echoOK ps m) : echoOK (ps ++ x) m := by
  cases m <;> simp only [echoOK] at h ⊢
  obtain ⟨p, m, hp, hm⟩ := h
  exact ⟨p, m, hp.trans (List.prefix_append _ _), hm⟩

def EchoInv (e : Ep) : Prop := ∀ m ∈ e.emitted, echoOK e.processed m

structure EchoView where
  processed : List Msg
  emitted : List Msg

def Ep.echoView (e : Ep) : EchoView := ⟨e.processed, e.emitted⟩

theorem echoInv_of_view {e e' : Ep} (h : e'.echoView = e.echoView) (hi : EchoInv e) : EchoInv e' := by
  simp only [Ep.echoView, EchoView.mk.injEq] at h
  obtain ⟨h1, h2⟩ := h
  unfold EchoInv at *
  rw [h1, h2]; exact hi

@[simp] theorem cv_kaReset (e : Ep) : (kaReset e).echoView = e.echoView := rfl
@[simp] theorem cv_idleReset (e : Ep) : (idleReset e).echoView = e.echoView := rfl

theorem echoInv_sent (e : Ep) (m : Msg) (hi : EchoInv e) (hm : echoOK e.processed m := by trivial) :
    EchoInv (e.sent m) := by
  intro x hx
  simp only [Ep.sent, List.mem_append, List.mem_singleton] at hx ⊢
  rcases hx with hx | hx
  · exact hi x hx
  · subst hx; exact hm

theorem echoInv_proc (e : Ep) (m : Msg) (hi : EchoInv e) : EchoInv (e.proc m) :=
  fun x hx => echoOK_mono _ (hi x hx)

theorem ackOfStep_seg (r : RxSpec) (f t : Nat) (x d cur : Bytes) (hin : r.inSess = true)
    (hc : if hasStart f then cur = [] else r.cur = some (t, cur)) :
    ackOfStep r (.xferSegment f t x d) = some (.xferAck f t (cur ++ d).length) := by
  split at hc
  · rename_i hst
    simp [ackOfStep, hin, hst, hc]
  · rename_i hst
    simp [ackOfStep, hin, hst, hc]

theorem ackOfStep_accept {e : Ep} {f t : Nat} {cur : Bytes} (x d : Bytes) (hr : RxInv e) (hs : e.inSess = true)
    (hc : if hasStart f then cur = [] else e.rxTmp = some (t, cur)) :
    ackOfStep (rxSpec e.processed) (.xferSegment f t x d) = some (.xferAck f t (cur ++ d).length) :=
  ackOfStep_seg _ f t x d cur (hr.2.2 ▸ hs) (hr.2.1 ▸ hc)

theorem echoOK_seg {e : Ep} {f t : Nat} {cur : Bytes} (x d : Bytes) (hr : RxInv e) (hs : e.inSess = true)
    (hc : if hasStart f then cur = [] else e.rxTmp = some (t, cur)) :
    echoOK (e.processed ++ [.xferSegment f t x d]) (.xferAck f t (cur ++ d).length) :=
  ⟨e.processed, .xferSegment f t x d, List.prefix_refl _, ackOfStep_accept x d hr hs hc⟩

theorem echoInv_tr {k : Kind} {a b : Ep} (h : Tr k a b) (hr : RxInv a) (hi : EchoInv a) : EchoInv b := by
  cases h with
  | contact => exact echoInv_of_view (e := a.sent (.contact 0)) rfl (echoInv_sent a _ hi)
  | init =>
    exact echoInv_of_view (e := a.sent (.sessInit a.cfg.keepalive a.cfg.segMru sizeMax a.cfg.nodeId
      (sessionExt a.cfg))) rfl (echoInv_sent a _ hi)
  | term _ f r _ => exact echoInv_sent a _ hi
  | kaFire _ _ => exact echoInv_sent _ _ hi
  | segMid _ it sent f x d n _ _ =>
    exact echoInv_of_view (e := a.sent (.xferSegment f it.tid x d)) rfl (echoInv_sent a _ hi)
  | segEnd _ it sent f x d _ _ =>
    exact echoInv_of_view (e := a.sent (.xferSegment f it.tid x d)) rfl (echoInv_sent a _ hi)
  | proc _ m _ => exact echoInv_proc a m hi
  | reject _ r m _ => exact echoInv_sent _ _ (echoInv_proc a m hi)
  | merge _ p x => exact echoInv_proc a (.sessInit p.keepalive p.segMru p.xferMru p.node x) hi
  | gotTerm _ f r _ _ => exact echoInv_proc a (.sessTerm f r) hi
  | rxMid _ f t x d cur hs hc _ =>
    exact echoInv_sent _ _ (echoInv_proc a (.xferSegment f t x d) hi) (echoOK_seg x d hr hs hc)
  | rxEnd _ f t x d cur hs hc _ =>
    exact echoInv_of_view (e := (a.proc (.xferSegment f t x d)).sent (.xferAck f t (cur ++ d).length)) rfl
      (echoInv_sent _ _ (echoInv_proc a _ hi) (echoOK_seg x d hr hs hc))
  | ackEnd _ f t l _ _ _ _ => exact echoInv_proc a (.xferAck f t l) hi
  | ackMid _ f t l _ _ _ => exact echoInv_proc a (.xferAck f t l) hi
  | refused _ r t _ _ => exact echoInv_of_view (e := a.proc (.xferRefuse r t)) rfl (echoInv_proc a _ hi)
  | _ => exact hi

theorem echoInv_step (e : Ep) (ev : Ev) (hr : RxInv e) (hi : EchoInv e) : EchoInv (step e ev).1 :=
  (step_inv (P := fun e => RxInv e ∧ EchoInv e) (fun _ _ _ t h => ⟨rxInv_tr t h.1, echoInv_tr t h.1 h.2⟩) e ev ⟨hr, hi⟩).2

theorem echoInv_init (cfg : Cfg) : EchoInv { cfg := cfg } := by
  intro m hm; simp at hm

theorem echoInv_run (evs : List Ev) (e : Ep) (hr : RxInv e) (hi : EchoInv e) : EchoInv (runEp e evs) :=
  (run_inv (P := fun e => RxInv e ∧ EchoInv e) (fun e ev h => ⟨rxInv_step e ev h.1, echoInv_step e ev h.1 h.2⟩)
    evs e ⟨hr, hi⟩).2

end Tcpcl
end DtnVerif
