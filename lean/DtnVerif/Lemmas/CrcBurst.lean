/- GF(2)-linearity of the reflected CRC step and burst-error detection (any message length). -/
import DtnVerif.Model.Crc
import DtnVerif.Lemmas.Bytes
namespace DtnVerif
namespace Crc

variable {w : Nat}

theorem xor_swap_right (A B p : BitVec w) : (A ^^^ p) ^^^ B = (A ^^^ B) ^^^ p := by ac_rfl

theorem xor_cancel_mid (A B p : BitVec w) : (A ^^^ p) ^^^ (B ^^^ p) = A ^^^ B := by
  rw [← BitVec.xor_assoc, xor_swap_right A B p, BitVec.xor_assoc, BitVec.xor_self, BitVec.xor_zero]

theorem crcStep_xor (p a b : BitVec w) (x y : Bool) :
    crcStep p (a ^^^ b) (x != y) = crcStep p a x ^^^ crcStep p b y := by
  -- the polynomial is xor-ed in on the left iff it is on exactly one side on the right
  have hb : ((a ^^^ b).getLsbD 0 != (x != y)) = ((a.getLsbD 0 != x) != (b.getLsbD 0 != y)) := by
    rw [BitVec.getLsbD_xor]
    cases a.getLsbD 0 <;> cases b.getLsbD 0 <;> cases x <;> cases y <;> rfl
  simp only [crcStep, hb, BitVec.ushiftRight_xor_distrib]
  cases (a.getLsbD 0 != x) <;> cases (b.getLsbD 0 != y) <;>
    simp only [bne_self_eq_false, Bool.false_bne, Bool.true_bne, Bool.not_false,
      Bool.false_eq_true, if_true, if_false]
  · exact BitVec.xor_assoc ..
  · exact (xor_swap_right ..).symm
  · exact (xor_cancel_mid ..).symm

def xorBits : List Bool → List Bool → List Bool
  | x :: xs, y :: ys => (x != y) :: xorBits xs ys
  | _, _ => []

theorem crcBits_xor (p : BitVec w) (a b : BitVec w) (xs ys : List Bool) (h : xs.length = ys.length) :
    crcBits p (a ^^^ b) (xorBits xs ys) = crcBits p a xs ^^^ crcBits p b ys := by
  induction xs generalizing a b ys with
  | nil => cases ys <;> simp_all [crcBits, xorBits]
  | cons x xs ih =>
    cases ys with
    | nil => simp at h
    | cons y ys =>
      simp only [List.length_cons, Nat.add_right_cancel_iff] at h
      simp only [xorBits, crcBits, List.foldl_cons] at ih ⊢
      rw [crcStep_xor]
      exact ih _ _ _ h

def step0 (p c : BitVec w) : BitVec w := crcStep p c false

theorem step0_zero (p : BitVec w) : step0 p 0 = 0 := by
  simp [step0, crcStep]

theorem step0_xor (p a b : BitVec w) : step0 p (a ^^^ b) = step0 p a ^^^ step0 p b := by
  have := crcStep_xor p a b false false
  simpa [step0] using this

theorem ushiftRight_one_msb (c : BitVec w) : (c >>> 1).msb = false := by
  rw [BitVec.msb_ushiftRight]
  simp

/-- with the top bit of the (reflected) polynomial set, the register's old low bit is visible as the
    new top bit -/
theorem step0_msb (p c : BitVec w) (hp : p.msb = true) : (step0 p c).msb = c.getLsbD 0 := by
  unfold step0 crcStep
  cases h : c.getLsbD 0
  · simp [ushiftRight_one_msb c]
  · simp [BitVec.msb_xor, ushiftRight_one_msb c, hp]

theorem eq_of_shift_lsb (c d : BitVec w) (h1 : c >>> 1 = d >>> 1) (h0 : c.getLsbD 0 = d.getLsbD 0) :
    c = d := by
  apply BitVec.eq_of_getLsbD_eq
  intro i hi
  cases i with
  | zero => exact h0
  | succ j =>
    have := congrArg (fun v => v.getLsbD j) h1
    simpa [BitVec.getLsbD_ushiftRight, Nat.add_comm] using this

theorem step0_inj (p c d : BitVec w) (hp : p.msb = true) (h : step0 p c = step0 p d) : c = d := by
  have h0 : c.getLsbD 0 = d.getLsbD 0 := by
    rw [← step0_msb p c hp, ← step0_msb p d hp, h]
  apply eq_of_shift_lsb c d _ h0
  unfold step0 crcStep at h
  rw [h0] at h
  cases hd : d.getLsbD 0
  · simpa [hd] using h
  · simpa [hd, BitVec.xor_left_inj] using h

theorem pos_of_msb {p : BitVec w} (hp : p.msb = true) : 0 < w := by
  cases w with
  | zero => simp [BitVec.msb] at hp
  | succ n => omega

def step0n (p : BitVec w) : Nat → BitVec w → BitVec w
  | 0, c => c
  | n+1, c => step0n p n (step0 p c)

theorem step0n_zero (p : BitVec w) (n : Nat) : step0n p n 0 = 0 := by
  induction n with
  | zero => rfl
  | succ n ih =>
    show step0n p n (step0 p 0) = 0
    rw [step0_zero]; exact ih

theorem step0n_xor (p a b : BitVec w) (n : Nat) :
    step0n p n (a ^^^ b) = step0n p n a ^^^ step0n p n b := by
  induction n generalizing a b with
  | zero => rfl
  | succ n ih => simp [step0n, step0_xor, ih]

theorem step0n_inj (p c d : BitVec w) (hp : p.msb = true) (n : Nat)
    (h : step0n p n c = step0n p n d) : c = d := by
  induction n generalizing c d with
  | zero => exact h
  | succ n ih => exact step0_inj p c d hp (ih _ _ h)

theorem crcBits_zeros (p c : BitVec w) (n : Nat) :
    crcBits p c (List.replicate n false) = step0n p n c := by
  induction n generalizing c with
  | zero => rfl
  | succ n ih =>
    simp only [List.replicate_succ, crcBits, List.foldl_cons, step0n] at ih ⊢
    exact ih _

theorem crcBits_append (p c : BitVec w) (xs ys : List Bool) :
    crcBits p c (xs ++ ys) = crcBits p (crcBits p c xs) ys := List.foldl_append

def lsbOf (x : Bool) : BitVec w := if x then 1#w else 0#w

theorem lsbOf_getLsbD (x : Bool) (hw : 0 < w) (i : Nat) :
    (lsbOf x : BitVec w).getLsbD i = (x && i == 0) := by
  cases x
  · simp [lsbOf]
  · simp [lsbOf, BitVec.getLsbD_one, hw]
    cases i <;> rfl

theorem crcStep_eq_step0 (p c : BitVec w) (x : Bool) (hw : 0 < w) :
    crcStep p c x = step0 p (c ^^^ lsbOf x) := by
  have h := crcStep_xor p c (lsbOf x) x x
  have hz : crcStep p (lsbOf x : BitVec w) x = 0 := by
    unfold crcStep
    rw [lsbOf_getLsbD x hw 0]
    cases x <;> simp [lsbOf]
    apply BitVec.eq_of_getLsbD_eq
    intro i hi
    simp [BitVec.getLsbD_ushiftRight, BitVec.getLsbD_one]
  rw [hz] at h
  simpa [step0] using h.symm

def embed : List Bool → BitVec w
  | [] => 0#w
  | x :: t => (embed t <<< 1) ^^^ lsbOf x

theorem embed_high (b : List Bool) (i : Nat) (hi : b.length ≤ i) :
    (embed b : BitVec w).getLsbD i = false := by
  induction b generalizing i with
  | nil => simp [embed]
  | cons x t ih =>
    by_cases hw : 0 < w
    · simp only [List.length_cons] at hi
      simp only [embed, BitVec.getLsbD_xor, lsbOf_getLsbD x hw, BitVec.getLsbD_shiftLeft]
      have : (i == 0) = false := by simp; omega
      have h1 : ¬ i < 1 := by omega
      simp [this, h1, ih (i - 1) (by omega)]
    · have : w = 0 := by omega
      subst this
      simp

theorem step0_shl (p v : BitVec w) (hv : v.msb = false) : step0 p (v <<< 1) = v := by
  unfold step0 crcStep
  have h0 : (v <<< 1).getLsbD 0 = false := by simp [BitVec.getLsbD_shiftLeft]
  simp only [h0, bne_self_eq_false, Bool.false_eq_true, if_false]
  apply BitVec.eq_of_getLsbD_eq
  intro i hi
  simp only [BitVec.getLsbD_ushiftRight, BitVec.getLsbD_shiftLeft]
  by_cases h : 1 + i < w
  · simp [h]
  · have : i = w - 1 := by omega
    subst this
    have : v.getLsbD (w - 1) = false := by
      rw [← BitVec.msb_eq_getLsbD_last]; exact hv
    simp [h, this]

theorem embed_msb (b : List Bool) (h : b.length < w) : (embed b : BitVec w).msb = false := by
  rw [BitVec.msb_eq_getLsbD_last]
  exact embed_high b (w - 1) (by omega)

/-- "Preload" identity: feeding `b` (at most `w` bits) = xor the bits into the low end of the
    register, then `|b|` zero-input steps. -/
theorem crcBits_preload (p c : BitVec w) (b : List Bool) (hlen : b.length ≤ w) :
    crcBits p c b = step0n p b.length (c ^^^ embed b) := by
  induction b generalizing c with
  | nil => simp [crcBits, step0n, embed]
  | cons x t ih =>
    have hw : 0 < w := by simp at hlen; omega
    simp only [List.length_cons] at hlen
    simp only [crcBits, List.foldl_cons, List.length_cons, step0n] at ih ⊢
    rw [ih _ (by omega), crcStep_eq_step0 p c x hw]
    congr 1
    simp only [embed]
    rw [← BitVec.xor_assoc, step0_xor p (c ^^^ embed t <<< 1) (lsbOf x)]
    rw [step0_xor p c (embed t <<< 1), step0_shl p (embed t) (embed_msb t (by omega))]
    rw [step0_xor p c (lsbOf x)]
    rw [BitVec.xor_assoc, BitVec.xor_assoc, BitVec.xor_comm (embed t)]

theorem shl_eq_zero (v : BitVec w) (hv : v.msb = false) (h : v <<< 1 = 0) : v = 0 := by
  have := step0_shl (0 : BitVec w) v hv
  rw [h] at this
  rw [← this]; exact step0_zero 0

theorem embed_eq_zero (b : List Bool) (hlen : b.length ≤ w) (h : (embed b : BitVec w) = 0) :
    b.any id = false := by
  induction b with
  | nil => rfl
  | cons x t ih =>
    have hw : 0 < w := by simp at hlen; omega
    simp only [List.length_cons] at hlen
    have h0 := congrArg (fun v => v.getLsbD 0) h
    simp only [embed, BitVec.getLsbD_xor, lsbOf_getLsbD x hw, BitVec.getLsbD_shiftLeft] at h0
    have hx : x = false := by simpa using h0
    subst hx
    have h1 : (embed t : BitVec w) <<< 1 = 0 := by simpa [embed, lsbOf] using h
    simpa using ih (by omega) (shl_eq_zero _ (embed_msb t (by omega)) h1)

theorem crcBits_burst_ne_zero (p : BitVec w) (hp : p.msb = true) (burst : List Bool)
    (hlen : burst.length ≤ w) (hne : burst.any id = true) : crcBits p 0 burst ≠ 0 := by
  intro h
  rw [crcBits_preload p 0 burst hlen] at h
  have h3 := step0n_inj p _ _ hp _ (h.trans (step0n_zero p burst.length).symm)
  rw [embed_eq_zero burst hlen (by simpa using h3)] at hne
  cases hne

/-- **Burst detection**, for a message of any length: xor-ing into the message an error pattern that
    is zero except for a window of at most `w` bits (the width of the CRC) containing at least one
    set bit changes the CRC register — for every initial value `init`. -/
theorem crcBits_burst (p init : BitVec w) (hp : p.msb = true) (m : List Bool)
    (pre post : Nat) (burst : List Bool) (hm : m.length = pre + burst.length + post)
    (hlen : burst.length ≤ w) (hne : burst.any id = true) :
    crcBits p init (xorBits m (List.replicate pre false ++ burst ++ List.replicate post false))
      ≠ crcBits p init m := by
  intro h
  have hl : m.length = (List.replicate pre false ++ burst ++ List.replicate post false).length := by
    simp [hm]; omega
  have hx := crcBits_xor p init 0 m _ hl
  have e0 : init ^^^ (0 : BitVec w) = init := BitVec.xor_zero
  rw [e0] at hx
  rw [hx] at h
  have hz : crcBits p 0 (List.replicate pre false ++ burst ++ List.replicate post false) = 0 :=
    (BitVec.xor_right_inj _).1 (h.trans BitVec.xor_zero.symm)
  rw [crcBits_append, crcBits_append, crcBits_zeros, crcBits_zeros, step0n_zero] at hz
  have h5 := step0n_inj p _ _ hp _ (hz.trans (step0n_zero p post).symm)
  exact crcBits_burst_ne_zero p hp burst hlen hne h5

theorem crcReg_eq_bits (p c : BitVec w) (d : Bytes) : crcReg p c d = crcBits p c (bitsOf d) := by
  induction d generalizing c with
  | nil => rfl
  | cons b r ih =>
    simp only [crcReg, List.foldl_cons, bitsOf] at ih ⊢
    rw [crcBits_append, ← ih]; rfl

theorem crcReg_append (p c : BitVec w) (a b : Bytes) :
    crcReg p c (a ++ b) = crcReg p (crcReg p c a) b := List.foldl_append

def burstPattern (pre : Nat) (burst : List Bool) (post : Nat) : List Bool :=
  List.replicate pre false ++ burst ++ List.replicate post false

theorem crc_burst (p init xorout : BitVec w) (hp : p.msb = true) (z z' : Bytes)
    (pre post : Nat) (burst : List Bool)
    (hm : (bitsOf z).length = pre + burst.length + post)
    (hz : bitsOf z' = xorBits (bitsOf z) (burstPattern pre burst post))
    (hlen : burst.length ≤ w) (hne : burst.any id = true) :
    crc p init xorout z' ≠ crc p init xorout z := by
  intro h
  unfold crc at h
  rw [crcReg_eq_bits, crcReg_eq_bits, hz] at h
  exact crcBits_burst p init hp (bitsOf z) pre post burst hm hlen hne ((BitVec.xor_left_inj _).1 h)

end Crc

namespace Bp
open Crc

theorem beBytes_toNat_inj {w : Nat} (k : Nat) (hk : 2 ^ w = 256 ^ k) {a b : BitVec w}
    (h : beBytes k a.toNat = beBytes k b.toNat) : a = b := by
  have := congrArg beNat h
  rw [beNat_beBytes k _ (hk ▸ a.isLt), beNat_beBytes k _ (hk ▸ b.isLt)] at this
  exact BitVec.eq_of_toNat_eq this

/-- The packed CRC of type 1 / 2 differs whenever the covered octets differ by a burst of at most
    16 / 32 bits. -/
theorem crcOf_burst (t : Nat) (ht : t = 1 ∨ t = 2) (z z' : Bytes) (pre post : Nat) (burst : List Bool)
    (hm : (bitsOf z).length = pre + burst.length + post)
    (hz : bitsOf z' = xorBits (bitsOf z) (burstPattern pre burst post))
    (hlen : burst.length ≤ 16 * t) (hne : burst.any id = true) :
    crcOf t z' ≠ crcOf t z := by
  rcases ht with rfl | rfl
  · exact fun h => crc_burst _ _ _ (by decide) z z' pre post burst hm hz (by omega) hne
      (beBytes_toNat_inj 2 (by decide) h)
  · exact fun h => crc_burst _ _ _ (by decide) z z' pre post burst hm hz (by omega) hne
      (beBytes_toNat_inj 4 (by decide) h)

end Bp
end DtnVerif
