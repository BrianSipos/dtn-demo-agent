/-
  Shared by the proofs about what the endpoint emits: the model's small helpers as single updates of the
  state, `run` unfolded by one event, and the step from "every event's outputs pass" to "every output list
  of a run passes". A test on an output list is `List.all` of a test on one output, so the algebra of
  such tests is that of `List.all`.
-/
import DtnVerif.Lemmas.TcpclCases
namespace DtnVerif
namespace Tcpcl

theorem setState_fst (e : Ep) (s : String) : (setState e s).1 = { e with state := s } := by
  unfold setState; split
  · next h => subst h; rfl
  · rfl

theorem pqTrigger_eq (e : Ep) :
    pqTrigger e = { e with pqPend := true, pqSources := if e.pqPend then e.pqSources else e.pqSources + 1 } := by
  unfold pqTrigger
  cases h : e.pqPend
  · rfl
  · simp only [if_true]
    rw [← h]

/-- `sendMessage` as one update of the state -/
def Ep.sent (e : Ep) (m : Msg) : Ep :=
  { e with txBuf := e.txBuf ++ encode m, emitted := e.emitted ++ [m], txWatch := true, txIdle := true,
           txSrc := e.txSrc + (if e.txWatch then 0 else 1) + (if e.txIdle then 0 else 1),
           kaDeadline := if e.kaTime > 0 then some (e.now + e.kaTime * 1000) else none,
           idleDeadline := if e.idleTime > 0 then some (e.now + e.idleTime * 1000) else none }

theorem sendMessage_eq (e : Ep) (m : Msg) : sendMessage e m = e.sent m := rfl

theorem sendContact_eq (e : Ep) : sendContact e = { e.sent (.contact 0) with sentContact := true } := by
  rw [sendContact, sendMessage_eq]

theorem sendInit_eq (e : Ep) :
    sendInit e = { e.sent (.sessInit e.cfg.keepalive e.cfg.segMru sizeMax e.cfg.nodeId (sessionExt e.cfg)) with
                   sentInit := true } := by
  rw [sendInit, sendMessage_eq]

theorem sendReject_eq (e : Ep) (r : Nat) (m : Msg) : sendReject e r m = e.sent (.msgReject m.type r) := by
  rw [sendReject, sendMessage_eq]

theorem emitted_sent (e : Ep) (m : Msg) : (e.sent m).emitted = e.emitted ++ [m] := rfl

theorem pa_sent (e : Ep) (m : Msg) : (e.sent m).txPendAck = e.txPendAck := rfl

theorem pa_sendMessage (e : Ep) (m : Msg) : (sendMessage e m).txPendAck = e.txPendAck := pa_sent e m

theorem closed_doClose (e : Ep) : (doClose e).1.closed = true := by
  unfold doClose; split
  · rename_i h; exact h
  · rfl

theorem sendSessTerm_sent (e : Ep) (r : Nat) (b : Bool) (hs : e.inSess = true) (ht : e.inTerm = false) :
    (sendSessTerm e r b).1.emitted = e.emitted ++ [.sessTerm (if b then 1 else 0) r]
    ∧ (sendSessTerm e r b).1.txPendStart = [] ∧ (sendSessTerm e r b).1.inTerm = true
    ∧ (sendSessTerm e r b).1.txTmp = e.txTmp ∧ (sendSessTerm e r b).1.inSess = true := by
  simp only [sendSessTerm, hs, ht, Bool.not_true, Bool.false_eq_true, if_false, setState, flushPendStart,
    sendMessage, sendReady, kaReset, idleReset]
  split <;> simp only [and_self]

theorem all_setState {p : Out → Bool} (e : Ep) (s : String) (h : p (.sig "session_state_changed" [.str s]) = true) :
    (setState e s).2.all p = true := by
  unfold setState; split
  · rfl
  · simp only [List.all_cons, h, List.all_nil, Bool.and_self]

theorem all_app {p : Out → Bool} {a b : List Out} (ha : a.all p = true) (hb : b.all p = true) :
    (a ++ b).all p = true := by rw [List.all_append, ha, hb]; rfl

theorem all_cons {p : Out → Bool} {o : Out} {os : List Out} (ho : p o = true) (hos : os.all p = true) :
    (o :: os).all p = true := by rw [List.all_cons, ho, hos]; rfl

theorem run_cons_fst (e : Ep) (ev : Ev) (evs : List Ev) : (run e (ev :: evs)).1 = (run (step e ev).1 evs).1 := rfl
theorem run_cons_snd (e : Ep) (ev : Ev) (evs : List Ev) :
    (run e (ev :: evs)).2 = (step e ev).2 :: (run (step e ev).1 evs).2 := rfl

/-- `J` is what is known before an event given the events still to come; it may carry hypotheses about them. -/
theorem run_outs {J : Ep → List Ev → Prop} {P : List Out → Prop}
    (h : ∀ e ev evs, J e (ev :: evs) → J (step e ev).1 evs ∧ P (step e ev).2) :
    ∀ (evs : List Ev) (e : Ep), J e evs → ∀ os ∈ (run e evs).2, P os := by
  intro evs
  induction evs with
  | nil => intro e _ os hos; cases hos
  | cons ev evs ih =>
    intro e hj os hos
    rw [run_cons_snd] at hos
    rcases List.mem_cons.mp hos with rfl | hos
    · exact (h e ev evs hj).2
    · exact ih _ (h e ev evs hj).1 os hos

end Tcpcl
end DtnVerif
