/-
  The loop over the targets of a security block that `verify_bib` and `verify_bcb` share, and what
  holds of it whatever is done per target.
-/
import DtnVerif.Model.Sec
namespace DtnVerif
namespace Sec
open Bp

/-- The common shape of `verifyBibLoop` and `verifyBcbLoop`: `s` is what the loop carries along (the
    blocks, for a BCB that accepts), `step s tgt m` verifies one target and gives the state afterwards. -/
def secLoop {S : Type} (find : S → Nat → Option Canonical) (results : List (List (Nat × Msg)))
    (step : S → Canonical → Msg → Bool × S) : List Nat → S → Nat → Bool → Verdict × S
  | [], s, _, fail => (if fail then .failed 15 else .ok, s)
  | t :: ts, s, ix, fail =>
    match find s t with
    | none => (.raised, s)
    | some tgt =>
      match results[ix]? with
      | none => (.raised, s)
      | some [(_, m)] =>
        secLoop find results step ts (step s tgt m).2 (ix + 1) (fail || !(step s tgt m).1)
      | some _ => secLoop find results step ts s (ix + 1) true

section
variable {Key : Type} (P : Prims Key) (store : Bytes → Option Key) (crcFn : Nat → Bytes → Bytes)

theorem verifyBibLoop_eq (b : Bundle) (sb : SecBlock) (ts : List Nat) (ix : Nat) (fail : Bool) :
    verifyBibLoop P store crcFn b sb ts ix fail =
      (secLoop (fun _ => findBlock b.blocks) sb.results
        (fun u tgt m => (verifyBibTarget P store crcFn (ctxFor b.primary b.blocks sb tgt)
          (m.attach (tgt.btsd.getD [])), u)) ts () ix fail).1 := by
  fun_induction verifyBibLoop P store crcFn b sb ts ix fail <;> simp +zetaDelta [secLoop, *]

theorem verifyBcbLoop_eq (accept : Bool) (prim : Primary) (sb : SecBlock)
    (ts : List Nat) (blocks : List Canonical) (ix : Nat) (fail : Bool) :
    verifyBcbLoop P store crcFn accept prim sb ts blocks ix fail =
      secLoop findBlock sb.results
        (fun blocks tgt m =>
          let r := verifyBcbTarget P store crcFn accept (ctxFor prim blocks sb tgt) (m.attach (tgt.btsd.getD []))
          (r.1, if accept then replaceBlock blocks r.2 else blocks)) ts blocks ix fail := by
  fun_induction verifyBcbLoop P store crcFn accept prim sb ts blocks ix fail <;> simp +zetaDelta [secLoop, *]

end

theorem checkSecblk_dup {sb : SecBlock}
    (h : hasDup sb.paramIds = true ∨ sb.results.any (fun r => hasDup (r.map (·.1))) = true) :
    checkSecblk sb = .failed 15 := by
  unfold checkSecblk
  rcases h with h | h <;> simp [h]

theorem forall_lt_cons {α : Type} (Q : Nat → α → Prop) (ix : Nat) (t : α) (ts : List α) :
    (∀ j, (hj : j < (t :: ts).length) → Q (ix + j) (t :: ts)[j]) ↔
      Q ix t ∧ ∀ j, (hj : j < ts.length) → Q (ix + 1 + j) ts[j] := by
  constructor
  · intro h
    refine ⟨h 0 (by simp), fun j hj => ?_⟩
    rw [Nat.add_right_comm ix 1 j]
    exact h (j + 1) (by simpa using hj)
  · intro h j hj
    cases j with
    | zero => exact h.1
    | succ j =>
      rw [← Nat.add_assoc, Nat.add_right_comm ix j 1]
      exact h.2 j (by simpa using hj)

variable {S : Type} {find : S → Nat → Option Canonical} {results : List (List (Nat × Msg))}
  {step : S → Canonical → Msg → Bool × S}

/-- A recorded failure is never withdrawn, whatever the per-target step does. -/
theorem secLoop_ok_imp : ∀ (ts : List Nat) (s : S) (ix : Nat) (fail : Bool),
    (secLoop find results step ts s ix fail).1 = .ok →
      fail = false ∧ ∀ j, j < ts.length → ∃ id m, results[ix + j]? = some [(id, m)]
  | [], _, _, fail => by
    cases fail <;> simp [secLoop]
  | t :: ts, s, ix, fail => by
    rw [forall_lt_cons (fun i _ => ∃ id m, results[i]? = some [(id, m)]) ix t ts]
    unfold secLoop
    split
    · simp
    · split
      · simp
      · rename_i id m hr
        intro h
        obtain ⟨hf, hall⟩ := secLoop_ok_imp ts _ _ _ h
        exact ⟨(Bool.or_eq_false_iff.mp hf).1, ⟨id, m, hr⟩, hall⟩
      · intro h
        exact absurd (secLoop_ok_imp ts _ _ _ h).1 (by simp)

theorem secLoop_ok_iff (hstep : ∀ s tgt m, (step s tgt m).2 = s) :
    ∀ (ts : List Nat) (s : S) (ix : Nat) (fail : Bool),
      (secLoop find results step ts s ix fail).1 = .ok ↔
        fail = false ∧ ∀ j, (hj : j < ts.length) → ∃ tgt id m, find s ts[j] = some tgt ∧
          results[ix + j]? = some [(id, m)] ∧ (step s tgt m).1 = true
  | [], _, _, fail => by
    cases fail <;> simp [secLoop]
  | t :: ts, s, ix, fail => by
    rw [forall_lt_cons (fun i u => ∃ tgt id m, find s u = some tgt ∧ results[i]? = some [(id, m)] ∧
      (step s tgt m).1 = true) ix t ts]
    unfold secLoop
    cases hf : find s t with
    | none => simp
    | some tgt =>
      simp only
      split
      · rename_i hr
        simp [hr]
      · rename_i id m hr
        rw [hstep, secLoop_ok_iff hstep ts s (ix + 1)]
        simp only [hr, Bool.or_eq_false_iff, Bool.not_eq_eq_eq_not, Bool.not_false, Option.some.injEq,
          List.cons.injEq, Prod.mk.injEq, and_true]
        constructor
        · rintro ⟨⟨h1, h2⟩, h3⟩
          exact ⟨h1, ⟨tgt, id, m, rfl, ⟨rfl, rfl⟩, h2⟩, h3⟩
        · rintro ⟨h1, ⟨_, _, _, rfl, ⟨rfl, rfl⟩, h2⟩, h3⟩
          exact ⟨⟨h1, h2⟩, h3⟩
      · rename_i rl hne hr
        rw [secLoop_ok_iff hstep ts s (ix + 1)]
        simp only [Bool.true_eq_false, false_and, false_iff, not_and]
        rintro _ ⟨_, id, m, _, hr', _⟩
        exact absurd (Option.some.inj (hr.symm.trans hr')) (hne id m)

end Sec
end DtnVerif
