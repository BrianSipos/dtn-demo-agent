/- Round-trip lemmas for the BPv7 decoders of Model/BundleDec.lean. -/
import DtnVerif.Model.BpAsb
import DtnVerif.Lemmas.Cbor
namespace DtnVerif
namespace Bp
open Cbor

theorem u64_iff (n : Nat) : u64 n = true ↔ n < 2 ^ 64 := by
  simp [u64]

theorem wfPrimary_iff {p : Primary} : wfPrimary p = true ↔
    u64 p.version = true ∧ u64 p.flags = true ∧ p.crcType ≤ 2 ∧ wfEid p.dest = true ∧ wfEid p.src = true
      ∧ wfEid p.rpt = true ∧ u64 p.ts.time = true ∧ u64 p.ts.seq = true ∧ u64 p.lifetime = true
      ∧ (if isFragment p.flags then u64 p.fragOff && u64 p.totalLen
          else p.fragOff == 0 && p.totalLen == 0) = true
      ∧ (if p.crcType != 0 then wfOptBytes p.crc else p.crc.isNone) = true := by
  simp only [wfPrimary, Bool.and_eq_true, decide_eq_true_eq, and_assoc]

theorem wfCanonical_iff {c : Canonical} : wfCanonical c = true ↔
    u64 c.typeCode = true ∧ u64 c.blockNum = true ∧ u64 c.flags = true ∧ c.crcType ≤ 2
      ∧ wfOptBytes c.btsd = true ∧ (if c.crcType != 0 then wfOptBytes c.crc else c.crc.isNone) = true := by
  simp only [wfCanonical, Bool.and_eq_true, decide_eq_true_eq, and_assoc]

theorem decNatList_enc (ps : List Nat) (r : Bytes) (h : ps.all u64 = true) :
    decNatList ps.length (encNatList ps ++ r) = some (ps, r) := by
  induction ps with
  | nil => rfl
  | cons p ps ih =>
    simp only [List.all_cons, Bool.and_eq_true] at h
    simp only [List.length_cons, encNatList, List.append_assoc, decNatList,
      decUint_enc p _ ((u64_iff p).1 h.1), ih h.2]

theorem wfEid_size {e : Eid} (h : wfEid e = true) : sizeEidB e = true := by
  unfold wfEid at h
  simp only [Bool.and_eq_true] at h
  cases e <;> simp [sizeEidB] <;> simpa using h.2

theorem wfEid_norm {e : Eid} (h : wfEid e = true) : normEid e = some e := by
  unfold wfEid at h
  simp only [Bool.and_eq_true, beq_iff_eq] at h
  exact h.1

theorem decEidRaw_enc (e : Eid) (r : Bytes) (h : sizeEidB e = true) :
    decEidRaw (e.enc ++ r) = some (e, r) := by
  cases e with
  | dtnNone =>
    simp only [Eid.enc, List.append_assoc, decEidRaw, decArrHead_enc 2 _ (by omega),
      decUint_enc 1 _ (by omega)]
    simp [encUint, decHead_head 0 0 r (by omega) (by omega)]
  | dtn ssp =>
    have hl : ssp.length < 2 ^ 64 := (u64_iff _).1 (by simpa [sizeEidB] using h)
    simp only [Eid.enc, List.append_assoc, decEidRaw, decArrHead_enc 2 _ (by omega),
      decUint_enc 1 _ (by omega)]
    simp [encTstr, decHead_head 3 ssp.length (ssp ++ r) (by omega) hl]
  | ipn ps =>
    simp only [sizeEidB, Bool.and_eq_true] at h
    obtain ⟨⟨h1, h2⟩, h3⟩ := h
    have hl : ps.length < 2 ^ 64 := (u64_iff _).1 h2
    have hne : (ps.length == 0) = false := by
      cases ps with
      | nil => simp at h1
      | cons => simp
    simp only [Eid.enc, List.append_assoc, decEidRaw, decArrHead_enc 2 _ (by omega),
      decUint_enc 2 _ (by omega), decArrHead_enc ps.length _ hl, hne, decNatList_enc ps r h3]
    simp

theorem decTimestamp_enc (t : Timestamp) (r : Bytes) (h1 : u64 t.time = true) (h2 : u64 t.seq = true) :
    decTimestamp (t.enc ++ r) = some (t, r) := by
  simp only [Timestamp.enc, List.append_assoc, decTimestamp, decArrHead_enc 2 _ (by omega),
    decUint_enc _ _ ((u64_iff _).1 h1), decUint_enc _ _ ((u64_iff _).1 h2)]
  simp

theorem decOptBstr_enc (o : Option Bytes) (r : Bytes) (h : wfOptBytes o = true) :
    decOptBstr (encOptBstr o ++ r) = some (o, r) := by
  cases o with
  | none =>
    simp [encOptBstr, encNull, decOptBstr, decBstr, decUint, decTstr, decHead]
  | some d =>
    simp only [encOptBstr, decOptBstr, decBstr_enc d r ((u64_iff _).1 (by simpa [wfOptBytes] using h))]

theorem decCrcSlot_enc (t : Nat) (o : Option Bytes) (r : Bytes)
    (h : (if t != 0 then wfOptBytes o else o.isNone) = true) :
    decCrcSlot (t != 0) ((if t != 0 then encOptBstr o else []) ++ r) = some (o, r) := by
  unfold decCrcSlot
  split
  · rename_i ht; simp only [ht, if_true] at h ⊢; exact decOptBstr_enc o r h
  · rename_i ht
    simp only [ht] at h ⊢
    cases o <;> simp_all

theorem decFragPair_enc (c : Bool) (o t : Nat) (r : Bytes)
    (h : (if c then u64 o && u64 t else o == 0 && t == 0) = true) :
    decFragPair c ((if c then encUint o ++ encUint t else []) ++ r) = some (o, t, r) := by
  unfold decFragPair
  cases c with
  | true =>
    simp only [if_true, Bool.and_eq_true] at h ⊢
    simp only [List.append_assoc, decUint_enc _ _ ((u64_iff _).1 h.1), decUint_enc _ _ ((u64_iff _).1 h.2)]
  | false =>
    simp only [Bool.false_eq_true, if_false, Bool.and_eq_true, beq_iff_eq] at h ⊢
    simp [h.1, h.2]

theorem Primary.count_range (p : Primary) : 8 ≤ p.count ∧ p.count ≤ 11 := by
  unfold Primary.count
  split <;> split <;> omega

theorem decPrimaryRaw_enc (p : Primary) (r : Bytes) (h : wfPrimary p = true) :
    decPrimaryRaw (p.enc ++ r) = some (p, r) := by
  obtain ⟨hv, hf, hc, hd, hs, hr, ht, hq, hl, hfr, hcrc⟩ := wfPrimary_iff.1 h
  have hcount : p.count < 2 ^ 64 := by
    have := p.count_range
    omega
  have hc' : ¬ (p.crcType > 2) := by omega
  simp only [Primary.enc, Primary.fields, List.append_assoc, decPrimaryRaw,
    decArrHead_enc _ _ hcount, decUint_enc _ _ ((u64_iff _).1 hv),
    decUint_enc _ _ ((u64_iff _).1 hf), decUint_enc p.crcType _ (by omega), hc', if_false,
    decEidRaw_enc _ _ (wfEid_size hd), decEidRaw_enc _ _ (wfEid_size hs),
    decEidRaw_enc _ _ (wfEid_size hr), decTimestamp_enc _ _ ht hq,
    decUint_enc _ _ ((u64_iff _).1 hl), decFragPair_enc _ _ _ _ hfr, decCrcSlot_enc _ _ _ hcrc]
  simp

theorem decCanonical_fields (c : Canonical) (n : Nat) (r : Bytes) (h : wfCanonical c = true)
    (hn : n < 2 ^ 64) :
    decCanonical (encArrHead n ++ c.fields ++ r) = if n != c.count then none else some (c, r) := by
  obtain ⟨ht, hnm, hf, hc, hb, hcrc⟩ := wfCanonical_iff.1 h
  have hc' : ¬ (c.crcType > 2) := by omega
  simp only [Canonical.fields, List.append_assoc, decCanonical,
    decArrHead_enc _ _ hn, decUint_enc _ _ ((u64_iff _).1 ht),
    decUint_enc _ _ ((u64_iff _).1 hnm), decUint_enc _ _ ((u64_iff _).1 hf),
    decUint_enc c.crcType _ (by omega), hc', if_false, decOptBstr_enc _ _ hb,
    decCrcSlot_enc _ _ _ hcrc]

theorem Canonical.count_range (c : Canonical) : 5 ≤ c.count ∧ c.count ≤ 6 := by
  unfold Canonical.count
  split <;> omega

theorem decCanonical_enc (c : Canonical) (r : Bytes) (h : wfCanonical c = true) :
    decCanonical (c.enc ++ r) = some (c, r) := by
  have hcount : c.count < 2 ^ 64 := by
    have := c.count_range
    omega
  rw [Canonical.enc, decCanonical_fields c _ r h hcount]
  simp

theorem Canonical.enc_cons (c : Canonical) :
    ∃ x t, c.enc = x :: t ∧ (x == 0xff) = false := by
  unfold Canonical.enc Canonical.count
  split
  · exact ⟨0x86, _, rfl, by decide⟩
  · exact ⟨0x85, _, rfl, by decide⟩

theorem Canonical.enc_length_pos (c : Canonical) : 0 < c.enc.length := by
  obtain ⟨x, t, h, _⟩ := Canonical.enc_cons c
  rw [h]; simp

theorem encBlocks_length_ge (cs : List Canonical) : cs.length ≤ (encBlocks cs).length := by
  induction cs with
  | nil => simp [encBlocks]
  | cons c cs ih =>
    have := Canonical.enc_length_pos c
    simp only [encBlocks, List.length_cons, List.length_append]; omega

theorem decBlocks_enc (cs : List Canonical) (r : Bytes) (fuel : Nat) (hf : cs.length < fuel)
    (h : cs.all wfCanonical = true) :
    decBlocks fuel (encBlocks cs ++ 0xff :: r) = some (cs, r) := by
  induction cs generalizing fuel with
  | nil =>
    cases fuel with
    | zero => simp at hf
    | succ f => simp [encBlocks, decBlocks]
  | cons c cs ih =>
    cases fuel with
    | zero => simp at hf
    | succ f =>
      simp only [List.all_cons, Bool.and_eq_true] at h
      simp only [List.length_cons] at hf
      obtain ⟨x, t, hx, hne⟩ := Canonical.enc_cons c
      have hd := decCanonical_enc c (encBlocks cs ++ 0xff :: r) h.1
      simp only [encBlocks, List.append_assoc]
      rw [hx] at hd ⊢
      simp only [List.cons_append, decBlocks, hne] at hd ⊢
      simp only [Bool.false_eq_true, if_false, hd, ih f (by omega) h.2]

theorem normPrimary_wf (p : Primary) (h : wfPrimary p = true) : normPrimary p = some p := by
  obtain ⟨_, _, _, hd, hs, hr, _⟩ := wfPrimary_iff.1 h
  simp [normPrimary, wfEid_norm hd, wfEid_norm hs, wfEid_norm hr]

theorem decodeBundleRaw_enc (b : Bundle) (h : wf b = true) : decodeBundleRaw b.enc = some b := by
  simp only [wf, Bool.and_eq_true] at h
  have hp := decPrimaryRaw_enc b.primary (encBlocks b.blocks ++ [0xff]) h.1
  simp only [Bundle.enc, List.append_assoc, List.cons_append, List.nil_append, decodeBundleRaw]
  simp only [show ((0x9f : UInt8) == 0x9f) = true by decide, if_true, hp]
  rw [decBlocks_enc b.blocks [] _ _ h.2]
  have := encBlocks_length_ge b.blocks
  simp only [List.length_append, List.length_cons, List.length_nil]; omega

theorem decodeBundle_enc (b : Bundle) (h : wf b = true) : decodeBundle b.enc = some b := by
  have hp : wfPrimary b.primary = true := by
    simp only [wf, Bool.and_eq_true] at h; exact h.1
  simp [decodeBundle, decodeBundleRaw_enc b h, normBundle, normPrimary_wf _ hp]

end Bp
end DtnVerif
