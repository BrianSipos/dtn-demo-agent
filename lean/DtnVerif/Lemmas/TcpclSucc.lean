/-
  Field frames for the ghost logs `successLog` and `processed`: only receptions change them.
-/
import DtnVerif.Lemmas.TcpclTr
namespace DtnVerif
namespace Tcpcl

@[simp] theorem succ_kaReset (e : Ep) : (kaReset e).successLog = e.successLog := rfl
@[simp] theorem succ_idleReset (e : Ep) : (idleReset e).successLog = e.successLog := rfl
@[simp] theorem succ_sendMessage (e : Ep) (m : Msg) : (sendMessage e m).successLog = e.successLog := by
  simp only [sendMessage, sendReady, kaReset, idleReset]
@[simp] theorem succ_flush (e : Ep) : (flushPendStart e).1.successLog = e.successLog := rfl
@[simp] theorem succ_mergeSession (e : Ep) (p : PeerInit) : (mergeSession e p).successLog = e.successLog := by
  simp only [mergeSession, kaReset, idleReset]
@[simp] theorem succ_sendContact (e : Ep) : (sendContact e).successLog = e.successLog := by
  simp only [sendContact, sendMessage, sendReady, kaReset, idleReset]
@[simp] theorem succ_sendInit (e : Ep) : (sendInit e).successLog = e.successLog := by
  simp only [sendInit, sendMessage, sendReady, kaReset, idleReset]
@[simp] theorem succ_sendReject (e : Ep) (r : Nat) (m : Msg) : (sendReject e r m).successLog = e.successLog :=
  succ_sendMessage e (.msgReject m.type r)

@[simp] theorem proc_kaReset (e : Ep) : (kaReset e).processed = e.processed := rfl
@[simp] theorem proc_idleReset (e : Ep) : (idleReset e).processed = e.processed := rfl
@[simp] theorem proc_sendMessage (e : Ep) (m : Msg) : (sendMessage e m).processed = e.processed := by
  simp only [sendMessage, sendReady, kaReset, idleReset]
@[simp] theorem proc_flush (e : Ep) : (flushPendStart e).1.processed = e.processed := rfl
@[simp] theorem proc_mergeSession (e : Ep) (p : PeerInit) : (mergeSession e p).processed = e.processed := by
  simp only [mergeSession, kaReset, idleReset]
@[simp] theorem proc_sendContact (e : Ep) : (sendContact e).processed = e.processed := by
  simp only [sendContact, sendMessage, sendReady, kaReset, idleReset]
@[simp] theorem proc_sendInit (e : Ep) : (sendInit e).processed = e.processed := by
  simp only [sendInit, sendMessage, sendReady, kaReset, idleReset]
@[simp] theorem proc_sendReject (e : Ep) (r : Nat) (m : Msg) : (sendReject e r m).processed = e.processed :=
  proc_sendMessage e (.msgReject m.type r)

theorem Tr.logs_eq {k : Kind} {a b : Ep} (h : Tr k a b) (hk : k.recv = false) :
    b.successLog = a.successLog ∧ b.processed = a.processed := by
  cases h <;> first | exact absurd hk (by decide) | exact ⟨rfl, rfl⟩

theorem Tr.successLog_cases {k : Kind} {a b : Ep} (h : Tr k a b) :
    b.successLog = a.successLog
    ∨ ∃ f t l, hasEnd f = true ∧ b.successLog = a.successLog ++ [t] ∧ b.processed = a.processed ++ [.xferAck f t l] := by
  cases h with
  | ackEnd _ f t l _ _ _ he => exact Or.inr ⟨f, t, l, he, rfl, rfl⟩
  | merge _ p x =>
    exact Or.inl (succ_mergeSession { a.proc (.sessInit p.keepalive p.segMru p.xferMru p.node x) with
      peerInit := some p, inSess := true } p)
  | _ => exact Or.inl rfl

theorem Reach.logs_eq {k : Kind} {a b : Ep} (h : Reach k a b) (hk : k.recv = false := by rfl) :
    b.successLog = a.successLog ∧ b.processed = a.processed :=
  h.inv (P := fun e => e.successLog = a.successLog ∧ e.processed = a.processed)
    (fun _ _ _ t hs hi => ⟨(t.logs_eq (Kind.recv_of_sub hs hk)).1.trans hi.1, (t.logs_eq (Kind.recv_of_sub hs hk)).2.trans hi.2⟩)
    ⟨rfl, rfl⟩

@[simp] theorem proc_doClose (e : Ep) : (doClose e).1.processed = e.processed := (reach_doClose (k := .loc) e).logs_eq.2

end Tcpcl
end DtnVerif
