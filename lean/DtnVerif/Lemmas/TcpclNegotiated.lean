/-
  What an endpoint has negotiated is what the peer's SESS_INIT said: whenever a peer SESS_INIT is on
  record, the keepalive interval in use is the smaller of the configured and the announced one, the
  idle time is the configured one, and a SESS_INIT with exactly the recorded values is among the
  messages processed.
-/
import DtnVerif.Lemmas.TcpclCfg
import DtnVerif.Lemmas.TcpclRx
namespace DtnVerif
namespace Tcpcl

def NG (e : Ep) : Prop :=
  (∀ p, e.peerInit = some p →
      e.kaTime = min e.cfg.keepalive p.keepalive ∧ e.idleTime = e.cfg.idle
      ∧ ∃ ext, Msg.sessInit p.keepalive p.segMru p.xferMru p.node ext ∈ e.processed)
  ∧ (e.peerInit = none → e.kaTime = 0 ∧ e.idleTime = 0)

theorem ng_tr {k : Kind} {a b : Ep} (h : Tr k a b) (hi : NG a) : NG b := by
  unfold NG at *
  rcases negotiated_tr h with ⟨h1, h2, h3, h4⟩ | ⟨p, x, h1, h2, h3, h4, h5⟩
  · rw [h1, h2, h3, h4]
    refine ⟨?_, hi.2⟩
    intro p hp
    obtain ⟨g1, g2, ext, hm⟩ := hi.1 p hp
    exact ⟨g1, g2, ext, h.processed_prefix.subset hm⟩
  · rw [h1, h2, h3, h4, h5]
    refine ⟨?_, fun hn => nomatch hn⟩
    intro q hq
    cases hq
    exact ⟨rfl, rfl, x, List.mem_append_right _ (List.mem_singleton_self _)⟩

theorem ng_step (e : Ep) (ev : Ev) (hi : NG e) : NG (step e ev).1 :=
  step_inv (fun _ _ _ => ng_tr) e ev hi

theorem ng_init (cfg : Cfg) : NG { cfg := cfg } := by
  refine ⟨?_, fun _ => ⟨rfl, rfl⟩⟩
  intro p h; cases h

end Tcpcl
end DtnVerif
