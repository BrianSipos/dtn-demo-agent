import DtnVerif.Model.Frag
import DtnVerif.Lemmas.BundleDec
namespace DtnVerif
namespace Frag
open Bp Cbor

def optLen : Option Bytes → Nat
  | none => 1
  | some d => headLen d.length + d.length

@[simp] theorem encOptBstr_length (o : Option Bytes) : (encOptBstr o).length = optLen o := by
  cases o <;> simp [encOptBstr, encNull, optLen]

def canonFixed (c : Canonical) : Nat :=
  headLen c.count + headLen c.typeCode + headLen c.blockNum + headLen c.flags + headLen c.crcType

def crcLen (t : Nat) (crc : Option Bytes) : Nat := if t != 0 then optLen crc else 0

theorem canon_enc_length (c : Canonical) :
    c.enc.length = canonFixed c + optLen c.btsd + crcLen c.crcType c.crc := by
  simp only [Canonical.enc, Canonical.fields, canonFixed, crcLen, List.length_append,
    apply_ite List.length, encUint_length, encArrHead_length, encOptBstr_length, List.length_nil]
  omega

def blocksLen : List Canonical → Nat
  | [] => 0
  | c :: cs => c.enc.length + blocksLen cs

theorem encBlocks_length (cs : List Canonical) : (encBlocks cs).length = blocksLen cs := by
  induction cs with
  | nil => rfl
  | cons c cs ih => simp [encBlocks, blocksLen, ih]

def blksLen (bs : List Blk) : Nat := blocksLen (bs.map (fun x => x.ensure.c))

theorem size_eq (b : FBundle) : b.size = 2 + b.primary.enc.length + blksLen b.blocks := by
  simp [FBundle.size, FBundle.enc, FBundle.toBundle, Bundle.enc, encBlocks_length, blksLen]; omega

@[simp] theorem blksLen_nil : blksLen [] = 0 := rfl
theorem blksLen_cons (x : Blk) (xs : List Blk) : blksLen (x :: xs) = x.ensure.c.enc.length + blksLen xs := rfl

theorem ensure_eq (x : Blk) : x.ensure = { x with c := { x.c with btsd := x.c.btsd <|> x.layer } } := by
  rcases x with ⟨⟨t, n, f, ct, btsd, crc⟩, layer⟩
  cases btsd <;> cases layer <;> rfl

theorem ensure_btsd_some (x : Blk) (d : Bytes) (h : x.c.btsd = some d) : x.ensure = x := by
  simp [Blk.ensure, h]

@[simp] theorem ensure_num (x : Blk) : x.ensure.c.blockNum = x.c.blockNum := by rw [ensure_eq]
@[simp] theorem ensure_flags (x : Blk) : x.ensure.c.flags = x.c.flags := by rw [ensure_eq]
@[simp] theorem ensure_crcType (x : Blk) : x.ensure.c.crcType = x.c.crcType := by rw [ensure_eq]
@[simp] theorem ensure_crc (x : Blk) : x.ensure.c.crc = x.c.crc := by rw [ensure_eq]
@[simp] theorem ensure_typeCode (x : Blk) : x.ensure.c.typeCode = x.c.typeCode := by rw [ensure_eq]
@[simp] theorem ensure_layer (x : Blk) : x.ensure.layer = x.layer := by rw [ensure_eq]

theorem ensure_idem (x : Blk) : x.ensure.ensure = x.ensure := by
  rcases x with ⟨⟨t, n, f, ct, btsd, crc⟩, layer⟩
  cases btsd <;> cases layer <;> rfl

def n1 (bs : List Blk) : Nat := (bs.filter (fun x => x.c.blockNum == 1)).length

theorem n1_eq_countP (bs : List Blk) : n1 bs = bs.countP (fun x => x.c.blockNum == 1) :=
  List.countP_eq_length_filter.symm

theorem n1_cons (x : Blk) (xs : List Blk) :
    n1 (x :: xs) = n1 xs + if x.c.blockNum == 1 then 1 else 0 := by
  simp only [n1_eq_countP, List.countP_cons]

theorem n1_filter_le (q : Blk → Bool) (bs : List Blk) : n1 (bs.filter q) ≤ n1 bs := by
  simp only [n1_eq_countP]; exact List.filter_sublist.countP_le

theorem n1_map (g : Blk → Blk) (hg : ∀ x, (g x).c.blockNum = x.c.blockNum) (bs : List Blk) :
    n1 (bs.map g) = n1 bs := by
  simp only [n1_eq_countP, List.countP_map, Function.comp_def, hg]

theorem payloadBlk_map (g : Blk → Blk) (hg : ∀ x, (g x).c.blockNum = x.c.blockNum) (bs : List Blk) :
    payloadBlk (bs.map g) = (payloadBlk bs).map g := by
  simp only [payloadBlk, List.find?_map, Function.comp_def, hg]

theorem nums_map (g : Blk → Blk) (hg : ∀ x, (g x).c.blockNum = x.c.blockNum) (bs : List Blk) :
    (bs.map g).map (fun x => x.c.blockNum) = bs.map (fun x => x.c.blockNum) := by
  simp only [List.map_map, Function.comp_def, hg]

theorem selectBlocks_map (g : Blk → Blk) (hg : ∀ x, (g x).c.blockNum = x.c.blockNum)
    (hf : ∀ x, (g x).c.flags = x.c.flags) (o : Nat) (bs : List Blk) :
    selectBlocks o (bs.map g) = (selectBlocks o bs).map g := by
  simp only [selectBlocks, List.filter_map, Function.comp_def, hg, hf]

theorem payloadBlk_mem {bs : List Blk} {pb : Blk} (h : payloadBlk bs = some pb) :
    pb ∈ bs ∧ pb.c.blockNum = 1 :=
  ⟨List.mem_of_find?_eq_some h, by simpa using List.find?_some h⟩

theorem payloadBlk_isSome {bs : List Blk} (h : ∃ x ∈ bs, x.c.blockNum = 1) :
    ∃ pb, payloadBlk bs = some pb := by
  apply Option.isSome_iff_exists.1
  simpa [payloadBlk] using h

/-- `setBtsd v`, `clearPayload` and `setPayload d` unfold to `onNum1 g` for their three `g`; the lemmas
    about `onNum1` apply to them on that ground, with no equation stated. -/
def onNum1 (g : Blk → Blk) (bs : List Blk) : List Blk :=
  bs.map (fun x => if x.c.blockNum == 1 then g x else x)

theorem forall_onNum1 {P : Blk → Prop} {g : Blk → Blk} (hg : ∀ x, P x → P (g x)) {bs : List Blk}
    (h : ∀ x ∈ bs, P x) : ∀ y ∈ onNum1 g bs, P y := by
  intro y hy
  obtain ⟨x, hx, rfl⟩ := List.mem_map.1 hy
  split
  · exact hg x (h x hx)
  · exact h x hx

theorem onNum1_of_n1_zero (g : Blk → Blk) (bs : List Blk) (h : n1 bs = 0) : onNum1 g bs = bs := by
  rw [n1_eq_countP, List.countP_eq_zero] at h
  rw [onNum1, List.map_congr_left fun x hx => if_neg (h x hx), List.map_id']

theorem blksLen_onNum1 (g : Blk → Blk) {bs : List Blk} {pb : Blk} (h1 : n1 bs ≤ 1)
    (hpb : payloadBlk bs = some pb) :
    blksLen (onNum1 g bs) + pb.ensure.c.enc.length = blksLen bs + (g pb).ensure.c.enc.length := by
  induction bs with
  | nil => cases hpb
  | cons x xs ih =>
    rw [n1_cons] at h1
    simp only [payloadBlk, List.find?_cons] at hpb
    simp only [onNum1, List.map_cons, blksLen_cons] at ih ⊢
    split at hpb
    · rename_i hx
      cases hpb
      rw [if_pos hx] at h1 ⊢
      have := onNum1_of_n1_zero g xs (by omega)
      rw [onNum1] at this
      rw [this]; omega
    · rename_i hx
      simp only [hx, Bool.false_eq_true, if_false] at h1 ⊢
      have := ih h1 hpb
      omega

theorem enc_length_btsd (c : Canonical) (v : Option Bytes) :
    ({ c with btsd := v } : Canonical).enc.length + optLen c.btsd = c.enc.length + optLen v := by
  rw [canon_enc_length, canon_enc_length]
  simp only [canonFixed, Canonical.count]
  omega

theorem blksLen_onNum1_data (g : Blk → Blk) (d : Bytes) {bs : List Blk} {pb : Blk}
    (hg : ∀ x, (g x).ensure.c = { x.ensure.c with btsd := some d }) (h1 : n1 bs ≤ 1)
    (hpb : payloadBlk bs = some pb) :
    blksLen (onNum1 g bs) + optLen pb.ensure.c.btsd = blksLen bs + optLen (some d) := by
  have := blksLen_onNum1 g h1 hpb
  have := enc_length_btsd pb.ensure.c (some d)
  rw [← hg pb] at this
  omega

theorem blksLen_setBtsd_eq (d : Bytes) (bs : List Blk) (pb : Blk) (h1 : n1 bs ≤ 1)
    (hpb : payloadBlk bs = some pb) :
    blksLen (setBtsd (some d) bs) + optLen pb.ensure.c.btsd = blksLen bs + optLen (some d) :=
  blksLen_onNum1_data _ d (fun x => by rw [ensure_btsd_some _ d rfl, ensure_eq x]) h1 hpb

theorem blksLen_clearPayload (bs : List Blk) (pb : Blk) (pdata : Bytes) (h1 : n1 bs ≤ 1)
    (hpb : payloadBlk bs = some pb) (hd : pb.c.btsd = some pdata) :
    blksLen (clearPayload bs) + optLen (some pdata) = blksLen bs + 1 := by
  rw [← hd, ← ensure_btsd_some pb pdata hd]
  exact blksLen_onNum1_data _ [] (fun x => by rw [ensure_btsd_some _ [] rfl, ensure_eq x]) h1 hpb

theorem ensure_with_c (y : Blk) (c' : Canonical) (h : c'.btsd = y.ensure.c.btsd) :
    ({ y.ensure with c := c' } : Blk).ensure = { y.ensure with c := c' } := by
  rcases y with ⟨⟨t, n, f, ct, btsd, crc⟩, layer⟩
  cases btsd <;> cases layer <;> simp_all [Blk.ensure]

theorem eff_fillBlk (x : Blk) :
    (fillBlk x).ensure.c = { x.ensure.c with crc := fillCrc x.ensure.c.crcType x.ensure.c.crc } :=
  congrArg Blk.c (ensure_with_c x _ (by rfl))

theorem updCanon_btsd (crcFn : Nat → Bytes → Bytes) (c : Canonical) : (updCanon crcFn c).btsd = c.btsd := by
  unfold updCanon; split <;> rfl

theorem eff_updBlk (crcFn : Nat → Bytes → Bytes) (x : Blk) :
    (updBlk crcFn x).ensure.c = updCanon crcFn x.ensure.c :=
  congrArg Blk.c (ensure_with_c x _ (updCanon_btsd crcFn _))

/-- `update_crc()` touches the CRC value only (`rw [updPrimary_eq]` reduces a projection) -/
theorem updPrimary_eq (crcFn : Nat → Bytes → Bytes) (p : Primary) :
    updPrimary crcFn p = { p with crc := (updPrimary crcFn p).crc } := by
  unfold updPrimary; split <;> rfl

def FilledCrc (t : Nat) (crc : Option Bytes) : Prop := t = 0 ∨ ∃ v, crc = some v ∧ v.length = crcWidth t

def Filled (b : FBundle) : Prop :=
  FilledCrc b.primary.crcType b.primary.crc ∧ ∀ x ∈ b.blocks, FilledCrc x.c.crcType x.c.crc

/-- Input well-formedness: wherever the caller supplied a CRC value it has the width of its CRC type
    (absent / empty values are zero-filled by `fill_fields`). -/
def CrcWf (b : FBundle) : Prop := Filled (fillFields b)

def crcLenStd (t : Nat) : Nat := if t != 0 then 1 + crcWidth t else 0

theorem crcWidth_le (t : Nat) : crcWidth t ≤ 4 := by
  unfold crcWidth; split <;> (try split) <;> omega

theorem crcLen_filled {t : Nat} {crc : Option Bytes} (h : FilledCrc t crc) : crcLen t crc = crcLenStd t := by
  unfold crcLen crcLenStd
  rcases h with h | ⟨v, hv, hl⟩
  · simp [h]
  · split
    · have := crcWidth_le t
      simp [hv, optLen, hl, headLen]; omega
    · rfl

theorem zeros_length (n : Nat) : (zeros n).length = n := by simp [zeros]

theorem filledCrc_fill {t : Nat} {crc : Option Bytes} (h : FilledCrc t crc) : FilledCrc t (fillCrc t crc) := by
  rcases h with h | ⟨v, hv, hl⟩
  · exact Or.inl h
  · by_cases ht : t = 0
    · exact Or.inl ht
    · right
      subst hv
      cases v with
      | nil => exact ⟨zeros (crcWidth t), by simp [fillCrc, ht], zeros_length _⟩
      | cons a as => exact ⟨a :: as, by simp [fillCrc, ht], hl⟩

def primBody (p : Primary) : Nat :=
  headLen p.count + headLen p.version + headLen p.flags + headLen p.crcType + p.dest.enc.length
  + p.src.enc.length + p.rpt.enc.length + p.ts.enc.length + headLen p.lifetime
  + (if isFragment p.flags then headLen p.fragOff + headLen p.totalLen else 0)

theorem primary_enc_length (p : Primary) : p.enc.length = primBody p + crcLen p.crcType p.crc := by
  simp only [Primary.enc, Primary.fields, primBody, crcLen, List.length_append,
    apply_ite List.length, encUint_length, encArrHead_length, encOptBstr_length, List.length_nil]
  omega

theorem primary_crc_length (p : Primary) {crc' : Option Bytes} (h : FilledCrc p.crcType p.crc)
    (h' : FilledCrc p.crcType crc') : ({ p with crc := crc' } : Primary).enc.length = p.enc.length := by
  rw [primary_enc_length, primary_enc_length, crcLen_filled h]
  exact congrArg (primBody p + ·) (crcLen_filled h')

theorem canon_crc_length (c : Canonical) {crc' : Option Bytes} (h : FilledCrc c.crcType c.crc)
    (h' : FilledCrc c.crcType crc') : ({ c with crc := crc' } : Canonical).enc.length = c.enc.length := by
  rw [canon_enc_length, canon_enc_length, crcLen_filled h]
  exact congrArg (canonFixed c + optLen c.btsd + ·) (crcLen_filled h')

theorem updPrimary_length (crcFn : Nat → Bytes → Bytes) (hcrc : ∀ t d, (crcFn t d).length = crcWidth t)
    (p : Primary) (h : FilledCrc p.crcType p.crc) : (updPrimary crcFn p).enc.length = p.enc.length := by
  unfold updPrimary
  split
  · exact primary_crc_length p h (.inl (beq_iff_eq.1 ‹_›))
  · exact primary_crc_length p h (.inr ⟨_, rfl, hcrc _ _⟩)

theorem updCanon_length (crcFn : Nat → Bytes → Bytes) (hcrc : ∀ t d, (crcFn t d).length = crcWidth t)
    (c : Canonical) (h : FilledCrc c.crcType c.crc) : (updCanon crcFn c).enc.length = c.enc.length := by
  unfold updCanon
  split
  · exact canon_crc_length c h (.inl (beq_iff_eq.1 ‹_›))
  · exact canon_crc_length c h (.inr ⟨_, rfl, hcrc _ _⟩)

theorem fillPrimary_length (p : Primary) (h : FilledCrc p.crcType p.crc) :
    (fillPrimary p).enc.length = p.enc.length :=
  primary_crc_length p h (filledCrc_fill h)

theorem blksLen_map (g : Blk → Blk) (bs : List Blk)
    (h : ∀ x ∈ bs, (g x).ensure.c.enc.length = x.ensure.c.enc.length) :
    blksLen (bs.map g) = blksLen bs := by
  induction bs with
  | nil => rfl
  | cons x xs ih =>
    rw [List.map_cons, blksLen_cons, blksLen_cons, h x List.mem_cons_self,
      ih fun y hy => h y (List.mem_cons_of_mem _ hy)]

theorem blksLen_fill (bs : List Blk) (h : ∀ x ∈ bs, FilledCrc x.c.crcType x.c.crc) :
    blksLen (bs.map fillBlk) = blksLen bs :=
  blksLen_map _ _ fun x hx => by
    have hx : FilledCrc x.ensure.c.crcType x.ensure.c.crc := by simpa using h x hx
    rw [eff_fillBlk]
    exact canon_crc_length _ hx (filledCrc_fill hx)

theorem blksLen_upd (crcFn : Nat → Bytes → Bytes) (hcrc : ∀ t d, (crcFn t d).length = crcWidth t)
    (bs : List Blk) (h : ∀ x ∈ bs, FilledCrc x.c.crcType x.c.crc) :
    blksLen (bs.map (updBlk crcFn)) = blksLen bs :=
  blksLen_map _ _ fun x hx => by
    rw [eff_updBlk, updCanon_length crcFn hcrc _ (by simpa using h x hx)]

theorem filled_fillFields {b : FBundle} (h : Filled b) : Filled (fillFields b) := by
  refine ⟨filledCrc_fill h.1, ?_⟩
  intro y hy
  simp only [fillFields, List.mem_map] at hy
  obtain ⟨x, hx, rfl⟩ := hy
  have := filledCrc_fill (h.2 x hx)
  simpa [fillBlk] using this

theorem size_fillFields {b : FBundle} (h : Filled b) : (fillFields b).size = b.size := by
  rw [size_eq, size_eq]
  simp only [fillFields]
  rw [fillPrimary_length _ h.1, blksLen_fill _ h.2]

theorem finalize_length (cfg : Cfg) (hcrc : ∀ t d, (cfg.crcFn t d).length = crcWidth t)
    (b : FBundle) (h : Filled b) : (finalize cfg b).length = b.size := by
  have hf := filled_fillFields h
  rw [← size_fillFields h]
  show (updateCrcs cfg.crcFn (fillFields b)).size = (fillFields b).size
  rw [size_eq, size_eq]
  simp only [updateCrcs]
  rw [updPrimary_length _ hcrc _ hf.1, blksLen_upd _ hcrc _ hf.2]

/-- the fragment `_create` builds at offset `o` -/
def fragAt (m pe : Nat) (pdata : Bytes) (p : Primary) (bs : List Blk) (o : Nat) : FBundle :=
  let e := emptyFrag p bs o pdata.length
  { e with blocks := setBtsd (some ((pdata.drop o).take (m - (e.size - 1 + pe)))) e.blocks }

/-- budget of the fragment at offset `o` (`frag_size`) -/
def budget (m pe : Nat) (pdata : Bytes) (p : Primary) (bs : List Blk) (o : Nat) : Nat :=
  m - ((emptyFrag p bs o pdata.length).size - 1 + pe)

theorem createLoop_succ (m pe : Nat) (pdata : Bytes) (p : Primary) (bs : List Blk) (fuel off : Nat) :
    createLoop m pe pdata p bs (fuel + 1) off =
      if off < pdata.length then
        if m ≤ (emptyFrag p bs off pdata.length).size - 1 + pe then ([], true)
        else (fragAt m pe pdata p bs off :: (createLoop m pe pdata p bs fuel (off + budget m pe pdata p bs off)).1,
              (createLoop m pe pdata p bs fuel (off + budget m pe pdata p bs off)).2)
      else ([], false) := rfl

theorem mem_createLoop {m pe : Nat} {pdata : Bytes} {p : Primary} {bs : List Blk}
    (fuel off : Nat) (f : FBundle) (h : f ∈ (createLoop m pe pdata p bs fuel off).1) :
      ∃ o, off ≤ o ∧ o < pdata.length ∧ (emptyFrag p bs o pdata.length).size - 1 + pe < m ∧
        f = fragAt m pe pdata p bs o := by
  fun_induction createLoop m pe pdata p bs fuel off with
  | case1 => cases h
  | case2 => cases h
  | case3 fuel off hlt e over hm fsz f' r ih =>
    rcases List.mem_cons.1 h with h | h
    · exact ⟨off, Nat.le_refl _, hlt, Nat.lt_of_not_le hm, h⟩
    · obtain ⟨o, h1, h2⟩ := ih h
      exact ⟨o, Nat.le_trans (Nat.le_add_right _ _) h1, h2⟩
  | case4 => cases h

@[simp] theorem fillBlk_num (x : Blk) : (fillBlk x).c.blockNum = x.c.blockNum := by simp [fillBlk]
@[simp] theorem fillBlk_crcType (x : Blk) : (fillBlk x).c.crcType = x.c.crcType := by simp [fillBlk]
@[simp] theorem fillBlk_flags (x : Blk) : (fillBlk x).c.flags = x.c.flags := by simp [fillBlk]

theorem n1_emptyFrag (p : Primary) (bs : List Blk) (o t : Nat) (h : n1 bs ≤ 1) :
    n1 (emptyFrag p bs o t).blocks ≤ 1 := by
  simp only [emptyFrag, fillFields, clearPayload]
  rw [n1_map _ fillBlk_num, n1_map _ (fun x => by split <;> rfl)]
  exact Nat.le_trans (n1_filter_le _ _) h

theorem take_drop_length_le (pdata : Bytes) (o k : Nat) :
    ((pdata.drop o).take k).length ≤ k ∧ ((pdata.drop o).take k).length ≤ pdata.length := by
  simp; omega

theorem isFragment_setFragFlag (f : Nat) : isFragment (setFragFlag f) = true := by
  unfold setFragFlag
  split
  · assumption
  · rename_i h; simp only [isFragment] at *; simp at h ⊢; omega

theorem filled_setBtsd {b : FBundle} (v : Option Bytes) (h : Filled b) :
    Filled { b with blocks := setBtsd v b.blocks } := by
  refine ⟨h.1, forall_onNum1 ?_ h.2⟩
  exact fun _ hx => hx

theorem filledCrc_clearSelect {bs : List Blk} (h : ∀ x ∈ bs, FilledCrc x.c.crcType x.c.crc) (o : Nat) :
    ∀ y ∈ clearPayload (selectBlocks o bs), FilledCrc y.c.crcType y.c.crc := by
  refine forall_onNum1 ?_ fun x hx => h x (List.mem_filter.1 hx).1
  exact fun _ hx => hx

theorem filled_fragAt (m pe : Nat) (pdata : Bytes) (p : Primary) (bs : List Blk) (o : Nat)
    (hp : FilledCrc p.crcType p.crc) (hbs : ∀ x ∈ bs, FilledCrc x.c.crcType x.c.crc) :
    Filled (fragAt m pe pdata p bs o) :=
  filled_setBtsd _ (filled_fillFields ⟨hp, filledCrc_clearSelect hbs o⟩)

theorem n1_le_one_of_nodup (bs : List Blk) (h : (bs.map (fun x => x.c.blockNum)).Nodup) : n1 bs ≤ 1 := by
  have : n1 bs = (bs.map (fun x => x.c.blockNum)).count 1 := by
    rw [n1_eq_countP, List.count_eq_countP, List.countP_map]; rfl
  rw [this]; exact List.nodup_iff_count.1 h 1

theorem n1_of_numsOk {b : FBundle} (h : numsOk b = true) : n1 b.blocks ≤ 1 := by
  simp only [numsOk, decide_eq_true_eq, List.nodup_cons] at h
  exact n1_le_one_of_nodup _ h.2

theorem numsOk_congr (a b : FBundle)
    (h : a.blocks.map (fun x => x.c.blockNum) = b.blocks.map (fun x => x.c.blockNum)) :
    numsOk a = numsOk b := by
  simp [numsOk, h]

theorem n1_setBtsd (v : Option Bytes) (bs : List Blk) : n1 (setBtsd v bs) = n1 bs := by
  apply n1_map
  intro x; split <;> rfl

/-- the container when the transmit chain reaches `_create`: reloaded, defaults applied, fields
    filled, security steps run -/
def prep (cfg : Cfg) (now : Option Timestamp) (b : FBundle) : FBundle :=
  cfg.secStep (fillFields { b with primary := applyOpt now b.primary })

theorem sendBundle_ok (cfg : Cfg) (now : Option Timestamp) (mtu : Option Nat) (b : FBundle)
    (h1 : numsOk b = true) (h2 : crcTypesOk b = true) :
    sendBundle cfg now mtu b =
      match create mtu (prep cfg now b) with
      | .skip => ⟨false, some (finalize cfg (prep cfg now b)), []⟩
      | .frags fs => ⟨false, none, fs⟩
      | .raised fs true => ⟨true, none, fs⟩
      | .raised fs false => ⟨false, some (finalize cfg (prep cfg now b)), fs⟩ := by
  unfold sendBundle prep
  simp only [h1, h2, Bool.not_true, Bool.or_false, Bool.false_eq_true, if_false]
  split <;> simp_all

theorem sendBundle_bad (cfg : Cfg) (now : Option Timestamp) (mtu : Option Nat) (b : FBundle)
    (h : ¬ (numsOk b = true ∧ crcTypesOk b = true)) : sendBundle cfg now mtu b = ⟨true, none, []⟩ := by
  unfold sendBundle
  split
  · rfl
  · rename_i hh; simp at hh; exact absurd hh h

theorem clOutputs_ok (cfg : Cfg) (mtu : Option Nat) (b : FBundle) (h1 : numsOk b = true)
    (h2 : crcTypesOk b = true) :
    clOutputs cfg mtu b =
      match create mtu (prep cfg cfg.now b) with
      | .skip => [finalize cfg (prep cfg cfg.now b)]
      | .frags fs => fs.flatMap (resend cfg mtu)
      | .raised fs true => fs.flatMap (resend cfg mtu)
      | .raised fs false => finalize cfg (prep cfg cfg.now b) :: fs.flatMap (resend cfg mtu) := by
  rw [clOutputs, sendBundle_ok _ _ _ _ h1 h2]
  split <;> simp_all

theorem clOutputs_bad (cfg : Cfg) (mtu : Option Nat) (b : FBundle)
    (h : ¬ (numsOk b = true ∧ crcTypesOk b = true)) : clOutputs cfg mtu b = [] := by
  simp [clOutputs, sendBundle_bad _ _ _ _ h]

theorem prep_primary (cfg : Cfg) (hsec : cfg.secStep = id) (now : Option Timestamp) (b : FBundle) :
    (prep cfg now b).primary = fillPrimary (applyOpt now b.primary) := by
  simp [prep, hsec, fillFields]

theorem prep_blocks (cfg : Cfg) (hsec : cfg.secStep = id) (now : Option Timestamp) (b : FBundle) :
    (prep cfg now b).blocks = b.blocks.map fillBlk := by
  simp [prep, hsec, fillFields]

theorem prep_filled (cfg : Cfg) (hsec : cfg.secStep = id) (now : Option Timestamp) (b : FBundle)
    (hwf : CrcWf b) : Filled (prep cfg now b) := by
  have : prep cfg now b = fillFields { b with primary := applyOpt now b.primary } := by
    simp [prep, hsec]
  rw [this]
  cases now <;> exact hwf

theorem prep_numsOk (cfg : Cfg) (hsec : cfg.secStep = id) (now : Option Timestamp) (b : FBundle) :
    numsOk (prep cfg now b) = numsOk b :=
  numsOk_congr _ _ (by rw [prep_blocks cfg hsec, nums_map _ fillBlk_num])

theorem prep_n1 (cfg : Cfg) (hsec : cfg.secStep = id) (now : Option Timestamp) (b : FBundle)
    (hn : numsOk b = true) : n1 (prep cfg now b).blocks ≤ 1 :=
  n1_of_numsOk ((prep_numsOk cfg hsec now b).trans hn)

theorem prep_crcTypesOk (cfg : Cfg) (hsec : cfg.secStep = id) (now : Option Timestamp) (b : FBundle) :
    crcTypesOk (prep cfg now b) = crcTypesOk b := by
  simp only [crcTypesOk, prep_primary cfg hsec, prep_blocks cfg hsec, List.all_map, Function.comp_def,
    fillBlk_crcType]
  cases now <;> rfl

theorem create_of_isFragment (mtu : Option Nat) (b : FBundle) (h : isFragment b.primary.flags = true) :
    create mtu b = .skip := by
  cases mtu <;> simp [create, h]

theorem applyPrimary_id (now : Timestamp) (p : Primary) (h1 : p.ts.time ≠ 0) (h2 : p.lifetime ≠ 0) :
    applyPrimary now p = p := by
  simp [applyPrimary, h1, h2]

theorem sendBundle_fragment (cfg : Cfg) (hsec : cfg.secStep = id) (mtu : Option Nat) (f : FBundle)
    (hfr : isFragment f.primary.flags = true) :
    (sendBundle cfg none mtu f).direct =
      if numsOk f = true ∧ crcTypesOk f = true then some (finalize cfg (fillFields f)) else none := by
  have hp : prep cfg none f = fillFields f := by
    simp only [prep, hsec, id, applyOpt]
  split
  · rename_i hok
    rw [sendBundle_ok _ _ _ _ hok.1 hok.2, hp,
      create_of_isFragment _ _ (by simpa [fillFields, fillPrimary] using hfr)]
  · rw [sendBundle_bad _ _ _ _ ‹_›]

theorem resend_length (cfg : Cfg) (hsec : cfg.secStep = id)
    (hcrc : ∀ t d, (cfg.crcFn t d).length = crcWidth t) (mtu : Option Nat) (f : FBundle)
    (hf : Filled f) (hfr : isFragment f.primary.flags = true) :
    ∀ out ∈ resend cfg mtu f, out.length = f.size := by
  intro out hout
  rw [resend, sendBundle_fragment cfg hsec mtu f hfr] at hout
  have : out = finalize cfg (fillFields f) := by
    split at hout
    · split at hout
      · exact List.mem_singleton.1 hout
      · cases hout
    · cases hout
  rw [this, finalize_length cfg hcrc _ (filled_fillFields hf), size_fillFields hf]

theorem payload_eq_some {b : FBundle} {P : Bytes} :
    b.payload = some P ↔ ∃ pb, payloadBlk b.blocks = some pb ∧ pb.c.btsd = some P := by
  simp [FBundle.payload, Option.bind_eq_some_iff]

theorem payload_some_mem {b : FBundle} {P : Bytes} (h : b.payload = some P) :
    ∃ x ∈ b.blocks, x.c.blockNum = 1 := by
  obtain ⟨pb, hpb, _⟩ := payload_eq_some.1 h
  exact ⟨pb, payloadBlk_mem hpb⟩

theorem create_eq {m : Nat} {b : FBundle} {P : Bytes} (hbig : m < b.size)
    (hnf : noFragment b.primary.flags = false) (hfr : isFragment b.primary.flags = false)
    (hP : b.payload = some P) :
    create (some m) b =
      if m < b.size - P.length + 3 * headLen P.length then .raised [] true
      else if (createLoop m (headLen P.length) P b.primary b.blocks P.length 0).2
        then .raised (createLoop m (headLen P.length) P b.primary b.blocks P.length 0).1 true
        else .frags (createLoop m (headLen P.length) P b.primary b.blocks P.length 0).1 := by
  obtain ⟨pb, hpb, hd⟩ := payload_eq_some.1 hP
  simp [create, hbig, hnf, hfr, hpb, hd]

theorem create_cases (m : Nat) (b : FBundle) :
    create (some m) b = .skip ∨ (create (some m) b = .raised [] false ∧ b.payload = none) ∨
    ∃ P, b.payload = some P ∧ m < b.size ∧ noFragment b.primary.flags = false ∧
      isFragment b.primary.flags = false := by
  by_cases hc : m < b.size ∧ noFragment b.primary.flags = false ∧ isFragment b.primary.flags = false
  · obtain ⟨h1, h2, h3⟩ := hc
    cases hpb : payloadBlk b.blocks with
    | none => exact .inr (.inl (by simp [create, h1, h2, h3, hpb, FBundle.payload]))
    | some pb =>
      cases hd : pb.c.btsd with
      | none => exact .inr (.inl (by simp [create, h1, h2, h3, hpb, hd, FBundle.payload]))
      | some P => exact .inr (.inr ⟨P, by simp [FBundle.payload, hpb, hd], h1, h2, h3⟩)
  · left
    simp only [create]
    split
    · rfl
    · rename_i h
      exact absurd (by simpa [and_assoc] using h) hc

theorem create_frags {m : Nat} {b : FBundle} {fs : List FBundle} (h : create (some m) b = .frags fs) :
    ∃ P, b.payload = some P ∧
      (createLoop m (headLen P.length) P b.primary b.blocks P.length 0).2 = false ∧
      fs = (createLoop m (headLen P.length) P b.primary b.blocks P.length 0).1 := by
  rcases create_cases m b with e | ⟨e, _⟩ | ⟨P, hP, h1, h2, h3⟩
  · rw [h] at e; cases e
  · rw [h] at e; cases e
  · rw [create_eq h1 h2 h3 hP] at h
    split at h
    · cases h
    · split at h
      · cases h
      · cases h; exact ⟨P, hP, Bool.eq_false_iff.2 ‹_›, rfl⟩

theorem mem_frags {m : Nat} {b : FBundle} {fs : List FBundle} {f : FBundle}
    (h : create (some m) b = .frags fs) (hf : f ∈ fs) :
    ∃ P o, b.payload = some P ∧ o < P.length ∧
      (emptyFrag b.primary b.blocks o P.length).size - 1 + headLen P.length < m ∧
      f = fragAt m (headLen P.length) P b.primary b.blocks o := by
  obtain ⟨P, hP, _, rfl⟩ := create_frags h
  obtain ⟨o, _, h2, h3, h4⟩ := mem_createLoop P.length 0 f hf
  exact ⟨P, o, hP, h2, h3, h4⟩

def pdataOf (f : FBundle) : Bytes := f.payload.getD []

theorem payload_setBtsd (v : Option Bytes) (bs : List Blk) (h : ∃ x ∈ bs, x.c.blockNum = 1) :
    (payloadBlk (setBtsd v bs)).bind (fun x => x.c.btsd) = v := by
  obtain ⟨pb, hpb⟩ := payloadBlk_isSome h
  rw [setBtsd, payloadBlk_map _ (fun x => by split <;> rfl), hpb]
  simp [(payloadBlk_mem hpb).2]

theorem emptyFrag_payloadBlk (p : Primary) (bs : List Blk) (o t : Nat) (h : ∃ x ∈ bs, x.c.blockNum = 1) :
    ∃ pb, payloadBlk (emptyFrag p bs o t).blocks = some pb ∧ pb.ensure.c.btsd = some [] := by
  obtain ⟨x, hx, h1⟩ := h
  obtain ⟨pb, hpb⟩ := payloadBlk_isSome (bs := selectBlocks o bs)
    ⟨x, List.mem_filter.2 ⟨hx, by simp [h1]⟩, h1⟩
  refine ⟨fillBlk { c := { pb.c with btsd := some [] }, layer := none }, ?_, by simp [fillBlk, Blk.ensure]⟩
  simp only [emptyFrag, fillFields, clearPayload]
  rw [payloadBlk_map _ fillBlk_num, payloadBlk_map _ (fun x => by split <;> rfl), hpb]
  simp [(payloadBlk_mem hpb).2]

theorem fragAt_payload (m pe : Nat) (pdata : Bytes) (p : Primary) (bs : List Blk) (o : Nat)
    (h : ∃ x ∈ bs, x.c.blockNum = 1) :
    (fragAt m pe pdata p bs o).payload = some ((pdata.drop o).take (budget m pe pdata p bs o)) := by
  obtain ⟨pb, hpb, _⟩ := emptyFrag_payloadBlk p bs o pdata.length h
  exact payload_setBtsd _ _ ⟨pb, payloadBlk_mem hpb⟩

theorem pdataOf_fragAt (m pe : Nat) (pdata : Bytes) (p : Primary) (bs : List Blk) (o : Nat)
    (h : ∃ x ∈ bs, x.c.blockNum = 1) :
    pdataOf (fragAt m pe pdata p bs o) = (pdata.drop o).take (budget m pe pdata p bs o) := by
  simp [pdataOf, fragAt_payload m pe pdata p bs o h]

theorem fragAt_nonempty (m pe : Nat) (pdata : Bytes) (p : Primary) (bs : List Blk) (o : Nat)
    (h : ∃ x ∈ bs, x.c.blockNum = 1) (ho : o < pdata.length)
    (hb : (emptyFrag p bs o pdata.length).size - 1 + pe < m) :
    (fragAt m pe pdata p bs o).payload.isSome ∧ pdataOf (fragAt m pe pdata p bs o) ≠ [] := by
  refine ⟨by simp [fragAt_payload m pe pdata p bs o h], ?_⟩
  rw [pdataOf_fragAt m pe pdata p bs o h]
  intro hnil
  have := congrArg List.length hnil
  simp [budget] at this
  omega

theorem createLoop_done (m pe : Nat) (pdata : Bytes) (p : Primary) (bs : List Blk) (fuel off : Nat)
    (h : pdata.length ≤ off) : createLoop m pe pdata p bs fuel off = ([], false) := by
  cases fuel with
  | zero => rfl
  | succ n => rw [createLoop_succ]; simp [Nat.not_lt.2 h]

def offsetsContiguous : Nat → List FBundle → Prop
  | _, [] => True
  | start, f :: fs => f.primary.fragOff = start ∧ offsetsContiguous (start + (pdataOf f).length) fs

theorem createLoop_tiling (m pe : Nat) (pdata : Bytes) (p : Primary) (bs : List Blk)
    (hp : ∃ x ∈ bs, x.c.blockNum = 1) (fuel off : Nat) (hf : pdata.length - off ≤ fuel)
    (h : (createLoop m pe pdata p bs fuel off).2 = false) :
      (((createLoop m pe pdata p bs fuel off).1).map pdataOf).flatten = pdata.drop off ∧
        offsetsContiguous off (createLoop m pe pdata p bs fuel off).1 := by
  fun_induction createLoop m pe pdata p bs fuel off with
  | case1 off => exact ⟨(List.drop_eq_nil_of_le (by omega)).symm, trivial⟩
  | case2 => cases h
  | case3 fuel off hlt e over hm fsz f' r ih =>
    have hpd : pdataOf f' = (pdata.drop off).take fsz := pdataOf_fragAt m pe pdata p bs off hp
    have hpos : 0 < fsz := Nat.sub_pos_of_lt (Nat.lt_of_not_le hm)
    obtain ⟨r1, r2⟩ := ih (by omega) h
    refine ⟨?_, rfl, ?_⟩
    · show pdataOf f' ++ ((createLoop m pe pdata p bs fuel (off + fsz)).1.map pdataOf).flatten = _
      rw [hpd, r1, ← List.drop_drop, List.take_append_drop]
    · rw [hpd]
      -- a last fragment may be shorter than its budget; nothing follows it then
      by_cases hle : off + fsz < pdata.length
      · rw [show ((pdata.drop off).take fsz).length = fsz by simp; omega]
        exact r2
      · show offsetsContiguous _ (createLoop m pe pdata p bs fuel (off + fsz)).1
        rw [createLoop_done _ _ _ _ _ _ _ (by omega)]
        trivial
  | case4 fuel off hlt => exact ⟨(List.drop_eq_nil_of_le (by omega)).symm, trivial⟩

theorem fillCrc_idem (t : Nat) (crc : Option Bytes) : fillCrc t (fillCrc t crc) = fillCrc t crc := by
  unfold fillCrc
  by_cases ht : (t == 0) = true
  · simp [ht]
  · simp only [ht]
    cases crc with
    | none => cases zeros (crcWidth t) <;> simp
    | some v => cases v <;> simp <;> (cases zeros (crcWidth t) <;> simp)

theorem fillBlk_idem (x : Blk) : fillBlk (fillBlk x) = fillBlk x := by
  have e : (fillBlk x).ensure = fillBlk x := ensure_with_c x _ rfl
  simp only [fillBlk] at e ⊢
  simp only [e, fillCrc_idem]

theorem selectBlocks_zero (bs : List Blk) : selectBlocks 0 bs = bs := by
  simp [selectBlocks]

theorem mem_selectBlocks_succ (o : Nat) (bs : List Blk) (x : Blk) :
    x ∈ selectBlocks (o + 1) bs ↔ x ∈ bs ∧ (replicate x.c.flags = true ∨ x.c.blockNum = 1) := by
  simp [selectBlocks]

theorem selectBlocks_setBtsd (v : Option Bytes) (o : Nat) (bs : List Blk) :
    selectBlocks o (setBtsd v bs) = setBtsd v (selectBlocks o bs) :=
  selectBlocks_map _ (fun x => by split <;> rfl) (fun x => by split <;> rfl) o bs

/-- replace the payload block's data and drop its scapy layer (what a fragment's payload block is) -/
def setPayload (d : Bytes) (bs : List Blk) : List Blk :=
  bs.map (fun x => if x.c.blockNum == 1 then { c := { x.c with btsd := some d }, layer := none } else x)

theorem setBtsd_clearPayload (d : Bytes) (bs : List Blk) :
    setBtsd (some d) (clearPayload bs) = setPayload d bs := by
  simp only [setBtsd, clearPayload, setPayload, List.map_map]
  apply List.map_congr_left
  intro x _
  simp only [Function.comp]
  split <;> simp [*]

theorem clearPayload_map_fillBlk (bs : List Blk) :
    (clearPayload bs).map fillBlk = clearPayload (bs.map fillBlk) := by
  simp only [clearPayload, List.map_map]
  apply List.map_congr_left
  intro x _
  simp only [Function.comp, fillBlk_num]
  split
  · have e := ensure_btsd_some { c := { x.c with btsd := some [] }, layer := none } [] rfl
    simp only [fillBlk, e]
    rw [ensure_eq x]
  · rfl

theorem fragAt_blocks (m pe : Nat) (pdata : Bytes) (p : Primary) (bs : List Blk) (o : Nat) :
    (fragAt m pe pdata p bs o).blocks =
      setPayload ((pdata.drop o).take (budget m pe pdata p bs o)) (selectBlocks o (bs.map fillBlk)) := by
  show setBtsd _ ((clearPayload (selectBlocks o bs)).map fillBlk) = _
  rw [clearPayload_map_fillBlk, ← selectBlocks_map _ fillBlk_num fillBlk_flags, setBtsd_clearPayload]
  rfl

theorem nums_fragAt (m pe : Nat) (pdata : Bytes) (p : Primary) (bs : List Blk) (o : Nat) :
    (fragAt m pe pdata p bs o).blocks.map (fun x => x.c.blockNum)
      = (selectBlocks o bs).map (fun x => x.c.blockNum) := by
  show (setBtsd _ ((clearPayload (selectBlocks o bs)).map fillBlk)).map _ = _
  rw [setBtsd, clearPayload, nums_map _ (fun x => by split <;> rfl), nums_map _ fillBlk_num,
    nums_map _ (fun x => by split <;> rfl)]

theorem numsOk_fragAt (m pe : Nat) (pdata : Bytes) (b : FBundle) (o : Nat) (h : numsOk b = true) :
    numsOk (fragAt m pe pdata b.primary b.blocks o) = true := by
  simp only [numsOk, decide_eq_true_eq, nums_fragAt] at h ⊢
  apply List.Nodup.sublist _ h
  apply List.Sublist.cons_cons
  exact (List.filter_sublist).map _

theorem crcTypesOk_fragAt (m pe : Nat) (pdata : Bytes) (b : FBundle) (o : Nat) (h : crcTypesOk b = true) :
    crcTypesOk (fragAt m pe pdata b.primary b.blocks o) = true := by
  simp only [crcTypesOk, Bool.and_eq_true, decide_eq_true_eq, List.all_eq_true, fragAt_blocks] at h ⊢
  refine ⟨h.1, forall_onNum1 ?_ fun y hy => ?_⟩
  · exact fun _ hx => hx
  · obtain ⟨x, hx, rfl⟩ := List.mem_map.1 (List.mem_filter.1 hy).1
    rw [fillBlk_crcType]
    exact h.2 x hx

theorem resend_eq (cfg : Cfg) (hsec : cfg.secStep = id) (hre : cfg.reroute = true) (mtu : Option Nat)
    (f : FBundle) (hn : numsOk f = true) (hc : crcTypesOk f = true)
    (hfr : isFragment f.primary.flags = true) :
    resend cfg mtu f = [finalize cfg (fillFields f)] := by
  rw [resend, if_pos hre, sendBundle_fragment cfg hsec mtu f hfr, if_pos ⟨hn, hc⟩]
  rfl

/-- `f` is even and so is every range bound of `headLen` -/
theorem headLen_setFragFlag (f : Nat) (h : isFragment f = false) : headLen (setFragFlag f) = headLen f := by
  have h2 : f % 2 = 0 := by simpa [isFragment] using h
  have key : ∀ T, T % 2 = 0 → (f + 1 < T ↔ f < T) := fun T hT => by omega
  simp only [setFragFlag, h, Bool.false_eq_true, if_false, headLen, key 24 rfl, key 256 rfl,
    key 65536 rfl, key 4294967296 rfl]

theorem count_headLen (p : Primary) : headLen p.count = 1 := by
  have : p.count < 24 := by have := p.count_range; omega
  simp only [headLen, this, if_true]

theorem primBody_fragPrimary (p : Primary) (o L : Nat) (h : isFragment p.flags = false) :
    primBody (fragPrimary p o L) = primBody p + headLen o + headLen L := by
  have h1 := isFragment_setFragFlag p.flags
  have h2 := headLen_setFragFlag p.flags h
  have h3 := count_headLen (fragPrimary p o L)
  have h4 := count_headLen p
  simp only [primBody, h3, h4]
  simp only [fragPrimary, h1, h, h2, if_true, Bool.false_eq_true, if_false]
  omega

theorem fragPrimary_enc_length (p : Primary) (o L : Nat) (h : isFragment p.flags = false)
    (hf : FilledCrc p.crcType p.crc) :
    (fillPrimary (fragPrimary p o L)).enc.length = p.enc.length + headLen o + headLen L := by
  have hf' : FilledCrc (fragPrimary p o L).crcType (fragPrimary p o L).crc := hf
  rw [fillPrimary_length _ hf', primary_enc_length, primary_enc_length, primBody_fragPrimary p o L h]
  show _ + crcLen p.crcType p.crc = _
  omega

theorem blksLen_filter_le (q : Blk → Bool) (bs : List Blk) : blksLen (bs.filter q) ≤ blksLen bs := by
  induction bs with
  | nil => simp
  | cons x xs ih =>
    simp only [List.filter_cons]
    split
    · simp only [blksLen_cons]; omega
    · simp only [blksLen_cons]; omega

theorem selectBlocks_clearPayload (o : Nat) (bs : List Blk) :
    selectBlocks o (clearPayload bs) = clearPayload (selectBlocks o bs) :=
  selectBlocks_map _ (fun x => by split <;> rfl) (fun x => by split <;> rfl) o bs

theorem emptyFrag_size_le (b : FBundle) (pb : Blk) (pdata : Bytes) (o : Nat) (hfl : Filled b)
    (hfr : isFragment b.primary.flags = false) (h1 : n1 b.blocks ≤ 1)
    (hpb : payloadBlk b.blocks = some pb) (hd : pb.c.btsd = some pdata)
    (ho : o < pdata.length) :
    (emptyFrag b.primary b.blocks o pdata.length).size + pdata.length
      ≤ b.size + headLen pdata.length + 1 := by
  have hb1 := blksLen_fill _ (filledCrc_clearSelect hfl.2 o)
  have hb2 : blksLen (selectBlocks o (clearPayload b.blocks)) ≤ _ := blksLen_filter_le _ _
  have hb3 := blksLen_clearPayload b.blocks pb pdata h1 hpb hd
  have hb4 := selectBlocks_clearPayload o b.blocks
  have hp := fragPrimary_enc_length b.primary o pdata.length hfr hfl.1
  have hm := headLen_mono (Nat.le_of_lt ho)
  have hs := size_eq b
  rw [size_eq]
  simp only [emptyFrag, fillFields]
  rw [hb1, ← hb4]
  simp only [optLen] at hb3
  omega

theorem createLoop_no_raise (m pe : Nat) (pdata : Bytes) (p : Primary) (bs : List Blk)
    (h : ∀ o, o < pdata.length → (emptyFrag p bs o pdata.length).size - 1 + pe < m) (fuel off : Nat) :
    (createLoop m pe pdata p bs fuel off).2 = false := by
  fun_induction createLoop m pe pdata p bs fuel off with
  | case1 => rfl
  | case2 fuel off hlt e over hm => exact absurd (h off hlt) (Nat.not_lt.2 hm)
  | case3 _ _ _ _ _ _ _ _ _ ih => exact ih
  | case4 => rfl

/-- When the code's own pre-check passes, no fragment budget is exhausted: the bundle is fragmented. -/
theorem create_of_precheck {m : Nat} {b : FBundle} {P : Bytes} (hfl : Filled b) (h1 : n1 b.blocks ≤ 1)
    (hP : b.payload = some P) (hbig : m < b.size) (hnf : noFragment b.primary.flags = false)
    (hfr : isFragment b.primary.flags = false)
    (hpre : b.size - P.length + 3 * headLen P.length ≤ m) :
    create (some m) b = .frags (createLoop m (headLen P.length) P b.primary b.blocks P.length 0).1 := by
  obtain ⟨pb, hpb, hd⟩ := payload_eq_some.1 hP
  have hbud : ∀ o, o < P.length →
      (emptyFrag b.primary b.blocks o P.length).size - 1 + headLen P.length < m := by
    intro o ho
    have := emptyFrag_size_le b pb P o hfl hfr h1 hpb hd ho
    have := headLen_pos P.length
    omega
  rw [create_eq hbig hnf hfr hP, if_neg (by omega), createLoop_no_raise m _ P _ _ hbud]
  rfl

/-- when `_create` raises on a container that has payload data, it is the pre-check: sender cleared,
    nothing scheduled -/
theorem create_raised {m : Nat} {b : FBundle} {P : Bytes} {fs : List FBundle} {cleared : Bool}
    (hfl : Filled b) (h1 : n1 b.blocks ≤ 1) (hP : b.payload = some P)
    (hr : create (some m) b = .raised fs cleared) : fs = [] ∧ cleared = true := by
  rcases create_cases m b with e | ⟨_, e⟩ | ⟨P', hP', hbig, hnf, hfr⟩
  · rw [hr] at e; cases e
  · rw [hP] at e; cases e
  · by_cases hpre : m < b.size - P'.length + 3 * headLen P'.length
    · rw [create_eq hbig hnf hfr hP', if_pos hpre] at hr
      cases hr; exact ⟨rfl, rfl⟩
    · rw [create_of_precheck hfl h1 hP' hbig hnf hfr (by omega)] at hr
      cases hr

/-- The empty fragment, minus the one-octet empty string, plus the CBOR head of the fragment's own
    payload length, plus the payload. -/
theorem fragAt_size_eq (m pe : Nat) (pdata : Bytes) (p : Primary) (bs : List Blk) (o : Nat)
    (h1 : n1 bs ≤ 1) (hp : ∃ x ∈ bs, x.c.blockNum = 1) :
    (fragAt m pe pdata p bs o).size + 1 =
      (emptyFrag p bs o pdata.length).size + headLen (pdataOf (fragAt m pe pdata p bs o)).length
        + (pdataOf (fragAt m pe pdata p bs o)).length := by
  obtain ⟨pb, hpb, hbt⟩ := emptyFrag_payloadBlk p bs o pdata.length hp
  have hn := n1_emptyFrag p bs o pdata.length h1
  have hpd := pdataOf_fragAt m pe pdata p bs o hp
  have heq := blksLen_setBtsd_eq ((pdata.drop o).take (budget m pe pdata p bs o)) _ pb hn hpb
  rw [hbt] at heq
  simp only [optLen, List.length_nil, show headLen 0 = 1 from rfl] at heq
  rw [hpd, size_eq, size_eq]
  simp only [fragAt, budget] at *
  omega

/-- The payload is no longer than the budget, and the head of its length no longer than the head
    reserved. -/
theorem fragAt_size_le (m : Nat) (pdata : Bytes) (p : Primary) (bs : List Blk) (o : Nat)
    (h1 : n1 bs ≤ 1) (hp : ∃ x ∈ bs, x.c.blockNum = 1)
    (hb : (emptyFrag p bs o pdata.length).size - 1 + headLen pdata.length < m) :
    (fragAt m (headLen pdata.length) pdata p bs o).size ≤ m := by
  have heq := fragAt_size_eq m (headLen pdata.length) pdata p bs o h1 hp
  have hpd := pdataOf_fragAt m (headLen pdata.length) pdata p bs o hp
  have hl := take_drop_length_le pdata o (budget m (headLen pdata.length) pdata p bs o)
  have hh := headLen_mono hl.2
  rw [hpd] at heq
  simp only [budget] at *
  omega

theorem runIdle_handed (cfg : Cfg) (mtu : Option Nat) (fail : Nat → Bool) :
    ∀ (fs : List FBundle) (i : Nat), (runIdle cfg mtu fail i fs).1 = fs.flatMap (resend cfg mtu) := by
  intro fs
  induction fs with
  | nil => intro i; rfl
  | cons f fs ih => intro i; simp only [runIdle, List.flatMap_cons, ih]

end Frag
end DtnVerif
