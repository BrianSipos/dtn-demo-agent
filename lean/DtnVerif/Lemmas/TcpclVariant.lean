/-
  A variant function for the internal events of the TCPCL endpoint (idle sources of `_process_queue`,
  the TX callback, socket reads): a potential `phi` of one endpoint which every such event pays from.

  * every octet in one of the two transmit buffers weighs `3` (it still has to be written, and the write
    may re-arm the `_process_queue` idle source through `send_buffer_decreased`);
  * every installed TX source weighs `2`, every `_process_queue` idle source `1`, being open `2`;
  * a transfer not completely segmented yet weighs `197` per remaining octet plus `194` (the header, the
    acknowledgement and the rejection the segment may provoke at the peer, the sources it installs);
  * not having sent SESS_TERM yet weighs `26` (the SESS_TERM which may still have to be sent in reply);
  * every message emitted and not yet processed by the peer carries `resp`, what its processing may
    cost the peer (in the system-level measure, Lemmas/TcpclVariantSys.lean).
-/
import DtnVerif.Lemmas.TcpclOuts
import DtnVerif.Lemmas.Bytes
namespace DtnVerif
namespace Tcpcl
namespace Var

/-- cost of handing an `n`-octet message to `send_message`: its octets and at most two TX sources -/
def pSend (n : Nat) : Nat := 3 * n + 4

def dItem (r : Nat) : Nat := r * 197 + 194

def initLen (c : Cfg) : Nat :=
  (encode (.sessInit c.keepalive c.segMru sizeMax c.nodeId (sessionExt c))).length

/-- what a SESS_INIT costs its receiver `r` (a passive endpoint answers with its own) -/
def respInit (r : Cfg) : Nat := if r.passive then pSend (initLen r) else 0

/-- an active endpoint `x` answers a contact header with its SESS_INIT, which costs the peer `y` -/
def respContactAct (x y : Cfg) : Nat := pSend (initLen x) + respInit y

def respContact (rcv snd : Cfg) : Nat :=
  if rcv.passive then pSend 6 + respContactAct snd rcv else respContactAct rcv snd

/-- upper bound of what processing `m` may add to the potential of the receiver (configuration `rcv`)
    and of the messages it sends back to `snd` -/
def resp (rcv snd : Cfg) : Msg → Nat
  | .contact _ => respContact rcv snd
  | .sessInit .. => respInit rcv
  | .sessTerm .. => 13
  | .xferSegment .. => 84
  | .xferAck .. => 13
  | .xferRefuse .. => 14
  | .keepalive => 0
  | .msgReject .. => 0

def R (rcv snd : Cfg) (l : List Msg) : Nat := (l.map (resp rcv snd)).sum

@[simp] theorem R_nil (rcv snd : Cfg) : R rcv snd [] = 0 := rfl
@[simp] theorem R_append (rcv snd : Cfg) (l1 l2 : List Msg) : R rcv snd (l1 ++ l2) = R rcv snd l1 + R rcv snd l2 := by
  simp [R, List.sum_append]
@[simp] theorem R_single (rcv snd : Cfg) (m : Msg) : R rcv snd [m] = resp rcv snd m := by simp [R]
@[simp] theorem R_cons (rcv snd : Cfg) (m : Msg) (l : List Msg) : R rcv snd (m :: l) = resp rcv snd m + R rcv snd l := by
  simp [R]

def dPend (l : List TxItem) : Nat := (l.map (fun it => dItem it.data.length)).sum

def dTmp : Option (TxItem × Nat) → Nat
  | none => 0
  | some (it, sent) => dItem (it.data.length - sent)

@[simp] theorem dPend_nil : dPend [] = 0 := rfl
@[simp] theorem dTmp_none : dTmp none = 0 := rfl
@[simp] theorem dTmp_some (it : TxItem) (sent : Nat) : dTmp (some (it, sent)) = dItem (it.data.length - sent) := rfl
@[simp] theorem dPend_cons (it : TxItem) (l : List TxItem) : dPend (it :: l) = dItem it.data.length + dPend l := by
  simp [dPend]

theorem dPend_filter_le (p : TxItem → Bool) (l : List TxItem) : dPend (l.filter p) ≤ dPend l := by
  induction l with
  | nil => simp
  | cons it l ih =>
    rw [List.filter_cons]
    split
    · simp only [dPend_cons]; omega
    · simp only [dPend_cons]; omega

structure VV where
  closed : Bool
  txSrc : Nat
  pqSources : Nat
  txBuf : Bytes
  connBuf : Bytes
  txPendStart : List TxItem
  txTmp : Option (TxItem × Nat)
  inTerm : Bool
  emitted : List Msg
  cfg : Cfg
  accepted : Bytes
  processed : List Msg

def vv (e : Ep) : VV :=
  ⟨e.closed, e.txSrc, e.pqSources, e.txBuf, e.connBuf, e.txPendStart, e.txTmp, e.inTerm, e.emitted, e.cfg,
   e.accepted, e.processed⟩

def unl (b : Bool) (n : Nat) : Nat := if b then 0 else n
@[simp] theorem unl_true (n : Nat) : unl true n = 0 := rfl
@[simp] theorem unl_false (n : Nat) : unl false n = n := rfl
theorem unl_le (b : Bool) (n : Nat) : unl b n ≤ n := by cases b <;> simp

def phiV (v : VV) : Nat :=
  unl v.closed 2 + 2 * v.txSrc + v.pqSources + 3 * (v.txBuf.length + v.connBuf.length)
    + dPend v.txPendStart + dTmp v.txTmp + unl v.inTerm 26

def phi (e : Ep) : Nat := phiV (vv e)

def Pay (pc : Cfg) (e e' : Ep) (c : Nat) : Prop :=
  e'.cfg = e.cfg ∧ e'.accepted = e.accepted ∧ e'.processed = e.processed ∧ e.pqSources ≤ e'.pqSources
  ∧ ∃ new, e'.emitted = e.emitted ++ new ∧ phi e' + R pc e.cfg new ≤ phi e + c

theorem pay_refl (pc : Cfg) (e : Ep) : Pay pc e e 0 := ⟨rfl, rfl, rfl, Nat.le_refl _, [], by simp, by simp⟩

theorem pay_of_view {pc : Cfg} {e e' : Ep} (h : vv e' = vv e) : Pay pc e e' 0 := by
  have h' := h
  simp only [vv, VV.mk.injEq] at h
  obtain ⟨-, -, h3, -, -, -, -, -, h9, h10, h11, h12⟩ := h
  refine ⟨h10, h11, h12, Nat.le_of_eq h3.symm, [], by simp [h9], ?_⟩
  simp only [phi, h', R_nil]; omega

theorem pay_trans {pc : Cfg} {e e' e'' : Ep} {c1 c2 : Nat} (h1 : Pay pc e e' c1) (h2 : Pay pc e' e'' c2) :
    Pay pc e e'' (c1 + c2) := by
  obtain ⟨a1, a2, a3, aq, n1, a4, a5⟩ := h1
  obtain ⟨b1, b2, b3, bq, n2, b4, b5⟩ := h2
  refine ⟨b1.trans a1, b2.trans a2, b3.trans a3, Nat.le_trans aq bq, n1 ++ n2, by rw [b4, a4, List.append_assoc], ?_⟩
  rw [a1] at b5
  simp only [R_append]; omega

theorem pay_mono {pc : Cfg} {e e' : Ep} {c c' : Nat} (h : Pay pc e e' c) (hc : c ≤ c') : Pay pc e e' c' := by
  obtain ⟨a1, a2, a3, aq, n1, a4, a5⟩ := h
  exact ⟨a1, a2, a3, aq, n1, a4, by omega⟩

theorem pay_then_view {pc : Cfg} {e e' e'' : Ep} {c : Nat} (h1 : Pay pc e e' c) (h2 : vv e'' = vv e') : Pay pc e e'' c :=
  pay_mono (pay_trans h1 (pay_of_view h2)) (by omega)

theorem pay_view_then {pc : Cfg} {e e' e'' : Ep} {c : Nat} (h1 : Pay pc e' e'' c) (h2 : vv e' = vv e) : Pay pc e e'' c :=
  pay_mono (pay_trans (pay_of_view h2) h1) (by omega)

theorem pay_then {pc : Cfg} {e e1 e2 : Ep} {c' c : Nat} (h : Pay pc e e1 c') (h1 : e2.cfg = e1.cfg)
    (h2 : e2.accepted = e1.accepted) (h3 : e2.processed = e1.processed) (h4 : e2.emitted = e1.emitted)
    (hq : e1.pqSources ≤ e2.pqSources) (hphi : phi e2 + c' ≤ phi e1 + c) : Pay pc e e2 c := by
  obtain ⟨a1, a2, a3, aq, n, a4, a5⟩ := h
  exact ⟨h1.trans a1, h2.trans a2, h3.trans a3, Nat.le_trans aq hq, n, h4.trans a4, by omega⟩

theorem pay_from {pc : Cfg} {e e1 e2 : Ep} {c' c : Nat} (h : Pay pc e1 e2 c') (h1 : e1.cfg = e.cfg)
    (h2 : e1.accepted = e.accepted) (h3 : e1.processed = e.processed) (h4 : e1.emitted = e.emitted)
    (hq : e.pqSources ≤ e1.pqSources) (hphi : phi e1 + c' ≤ phi e + c) : Pay pc e e2 c := by
  obtain ⟨a1, a2, a3, aq, n, a4, a5⟩ := h
  refine ⟨a1.trans h1, a2.trans h2, a3.trans h3, Nat.le_trans hq aq, n, by rw [a4, h4], ?_⟩
  rw [h1] at a5; omega

theorem pay_lower {pc : Cfg} {e e' : Ep} (h1 : e'.cfg = e.cfg) (h2 : e'.accepted = e.accepted)
    (h3 : e'.processed = e.processed) (h4 : e'.emitted = e.emitted) (h5 : phi e' ≤ phi e)
    (hq : e.pqSources ≤ e'.pqSources := by exact Nat.le_refl _) : Pay pc e e' 0 :=
  pay_from (pay_refl pc e') h1 h2 h3 h4 hq h5

theorem vv_kaReset (e : Ep) : vv (kaReset e) = vv e := rfl
theorem vv_idleReset (e : Ep) : vv (idleReset e) = vv e := rfl
theorem vv_mergeSession (e : Ep) (p : PeerInit) : vv (mergeSession e p) = vv e := rfl

theorem vv_setState (e : Ep) (s : String) : vv (setState e s).1 = vv e := by rw [setState_fst]; rfl

theorem pay_setState (pc : Cfg) (e : Ep) (s : String) : Pay pc e (setState e s).1 0 := pay_of_view (vv_setState e s)

theorem pq_fields (x : Ep) : (pqTrigger x).cfg = x.cfg ∧ (pqTrigger x).accepted = x.accepted
    ∧ (pqTrigger x).processed = x.processed ∧ (pqTrigger x).emitted = x.emitted
    ∧ x.pqSources ≤ (pqTrigger x).pqSources ∧ phi (pqTrigger x) ≤ phi x + 1 := by
  unfold pqTrigger
  split
  · exact ⟨rfl, rfl, rfl, rfl, Nat.le_refl _, Nat.le_succ _⟩
  · refine ⟨rfl, rfl, rfl, rfl, Nat.le_succ _, ?_⟩
    simp only [phi, phiV, vv]; omega

theorem pay_pqTrigger (pc : Cfg) (e : Ep) : Pay pc e (pqTrigger e) 1 := by
  obtain ⟨q1, q2, q3, q4, q5, q6⟩ := pq_fields e
  exact pay_then (pay_refl pc e) q1 q2 q3 q4 q5 q6

theorem pay_sendMessage (pc : Cfg) (e : Ep) (m : Msg) :
    Pay pc e (sendMessage e m) (pSend (encode m).length + resp pc e.cfg m) := by
  rw [sendMessage_eq]
  refine ⟨rfl, rfl, rfl, Nat.le_refl _, [m], rfl, ?_⟩
  simp only [Ep.sent, phi, phiV, vv, R_single, pSend, List.length_append]
  have h1 : (if e.txWatch = true then 0 else 1) ≤ 1 := by split <;> omega
  have h2 : (if e.txIdle = true then 0 else 1) ≤ 1 := by split <;> omega
  omega

theorem pay_flush (pc : Cfg) (e : Ep) : Pay pc e (flushPendStart e).1 0 := by
  refine pay_lower rfl rfl rfl rfl ?_
  simp only [phi, phiV, vv, flushPendStart, dPend_nil]; omega

theorem pay_doClose (pc : Cfg) (e : Ep) : Pay pc e (doClose e).1 0 := by
  unfold doClose
  split
  · exact pay_refl pc e
  · refine pay_lower rfl rfl rfl rfl ?_
    simp only [phi, phiV, vv, flushPendStart, dPend_nil, unl_true]; omega

theorem pay_checkSessTerm (pc : Cfg) (e : Ep) : Pay pc e (checkSessTerm e).1 0 := by
  unfold checkSessTerm
  split
  · exact pay_doClose pc e
  · exact pay_refl pc e

theorem len_reject (a b : Nat) : (encode (.msgReject a b)).length = 3 := by
  simp [encode, Msg.body, Msg.type, u8]

theorem len_sessTerm (a b : Nat) : (encode (.sessTerm a b)).length = 3 := by
  simp [encode, Msg.body, Msg.type, u8]

theorem len_ack (a b c : Nat) : (encode (.xferAck a b c)).length = 18 := by
  simp [encode, Msg.body, Msg.type, u8, u64]

theorem len_contact (f : Nat) : (encode (.contact f)).length = 6 := by
  simp [encode, Msg.body, u8, magic]

theorem pay_sendReject (pc : Cfg) (e : Ep) (r : Nat) (m : Msg) : Pay pc e (sendReject e r m) 13 := by
  have h := pay_sendMessage pc e (.msgReject m.type r)
  rw [len_reject] at h
  exact pay_mono h (by simp [pSend, resp])

theorem pay_sendContact (pc : Cfg) (e : Ep) : Pay pc e (sendContact e) (pSend 6 + respContact pc e.cfg) := by
  have h := pay_sendMessage pc e (.contact 0)
  rw [len_contact] at h
  exact pay_then_view (pay_mono h (by simp [resp])) (e' := sendMessage e (.contact 0)) rfl

theorem pay_sendInit (pc : Cfg) (e : Ep) : Pay pc e (sendInit e) (pSend (initLen e.cfg) + respInit pc) := by
  have h := pay_sendMessage pc e (.sessInit e.cfg.keepalive e.cfg.segMru sizeMax e.cfg.nodeId (sessionExt e.cfg))
  exact pay_then_view (pay_mono h (by simp [resp, initLen])) (e' := sendMessage e _) rfl

theorem pay_sendSessTerm (pc : Cfg) (e : Ep) (r : Nat) (b : Bool) : Pay pc e (sendSessTerm e r b).1 0 := by
  unfold sendSessTerm
  split
  · exact pay_refl pc e
  · split
    · exact pay_refl pc e
    · rename_i h1 h2
      simp only []
      have hterm : e.inTerm = false := by simpa using h2
      -- entering termination releases 26, which pays for the SESS_TERM
      generalize he1 : (setState { e with inTerm := true } "ending").1 = e1
      rw [setState_fst] at he1
      have s2 := pay_trans (pay_sendMessage pc e1 (.sessTerm (if b then 1 else 0) r)) (pay_flush pc _)
      rw [len_sessTerm] at s2
      subst he1
      refine pay_from s2 rfl rfl rfl rfl (Nat.le_refl _) ?_
      simp only [phi, phiV, vv, hterm, pSend, resp, unl_true, unl_false]; omega

theorem pay_onContact (pc : Cfg) (e : Ep) (hp : e.cfg.passive = true → pc.passive = false) :
    Pay pc e (onContact e).1 (respContact e.cfg pc) := by
  unfold onContact
  simp only []
  cases hpa : e.cfg.passive
  · -- active: answers with SESS_INIT
    simp only [Bool.false_eq_true, if_false, Bool.not_false, if_true]
    have h1 := pay_setState pc e "session-negotiating"
    have h2 := pay_sendInit pc (setState e "session-negotiating").1
    have hc : (setState e "session-negotiating").1.cfg = e.cfg := congrArg VV.cfg (vv_setState e _)
    rw [hc] at h2
    refine pay_mono (pay_trans h1 h2) ?_
    simp [respContact, respContactAct, hpa]
  · -- passive: answers with its contact header
    simp only [if_true, Bool.not_true, Bool.false_eq_true, if_false]
    have h1 := pay_sendContact pc e
    have h2 := pay_setState pc (sendContact e) "session-negotiating"
    refine pay_mono (pay_trans h1 h2) ?_
    have : pc.passive = false := hp hpa
    simp [respContact, hpa, this]

theorem pay_onSessInit (pc : Cfg) (e : Ep) (p : PeerInit) (hp : e.cfg.passive = true → pc.passive = false) :
    Pay pc e (onSessInit e p).1 (respInit e.cfg) := by
  unfold onSessInit
  simp only []
  cases hpa : e.cfg.passive
  · simp only [Bool.false_eq_true, if_false]
    refine pay_mono (c := 0) ?_ (by omega)
    refine pay_then_view (pay_refl pc e) ?_
    rw [vv_setState, vv_mergeSession]; rfl
  · simp only [if_true]
    have h1 := pay_sendInit pc e
    have : pc.passive = false := hp hpa
    refine pay_mono (pay_then_view h1 ?_) (by simp [respInit, hpa, this])
    rw [vv_setState, vv_mergeSession]; rfl

theorem pay_segAccept (pc : Cfg) (e : Ep) (flags tid : Nat) (cur data : Bytes) (o1 : List Out) :
    Pay pc e (segAccept e flags tid cur data o1).1 71 := by
  unfold segAccept
  simp only []
  have h1 := pay_sendMessage pc e (.xferAck flags tid (cur ++ data).length)
  rw [len_ack] at h1
  have h1' : Pay pc e (sendMessage e (.xferAck flags tid (cur ++ data).length)) 71 := pay_mono h1 (by simp [pSend, resp])
  split
  · generalize hm : sendMessage e (.xferAck flags tid (cur ++ data).length) = e2 at h1'
    exact pay_mono (pay_trans (pay_then_view h1' rfl) (pay_checkSessTerm pc _)) (by omega)
  · have h2 := pay_sendMessage pc { e with rxTmp := some (tid, cur ++ data) } (.xferAck flags tid (cur ++ data).length)
    rw [len_ack] at h2
    exact pay_view_then (pay_mono h2 (by simp [pSend, resp])) rfl

theorem pay_dropTmp (pc : Cfg) (e1 : Ep) (tid : Nat) :
    Pay pc e1 (match e1.txTmp with
      | some (it, _) => if it.tid == tid then pqTrigger { e1 with txTmp := none } else e1
      | none => e1) 1 := by
  split
  · split
    · have h2 : Pay pc e1 { e1 with txTmp := none } 0 := by
        refine pay_lower rfl rfl rfl rfl ?_
        simp only [phi, phiV, vv, dTmp]; omega
      exact pay_mono (c := 0 + 1) (pay_trans h2 (pay_pqTrigger pc _)) (by omega)
    · exact pay_mono (pay_refl pc e1) (by omega)
  · exact pay_mono (pay_refl pc e1) (by omega)

theorem pay_handleMsg (pc : Cfg) (e : Ep) (m : Msg) (hp : e.cfg.passive = true → pc.passive = false) :
    (handleMsg e m).1.cfg = e.cfg ∧ (handleMsg e m).1.accepted = e.accepted
    ∧ (handleMsg e m).1.processed = e.processed ++ [m] ∧ e.pqSources ≤ (handleMsg e m).1.pqSources
    ∧ ∃ new, (handleMsg e m).1.emitted = e.emitted ++ new
        ∧ phi (handleMsg e m).1 + R pc e.cfg new ≤ phi e + resp e.cfg pc m := by
  apply handleMsg_cases e (P := fun m r => Pay pc (e.proc m) r.1 (resp e.cfg pc m))
  case reject =>
    -- only messages that earn at least the 13 of a MSG_REJECT can be out of place
    intro m hm
    refine pay_mono (pay_sendReject pc _ _ m) ?_
    cases m with
    | sessTerm | xferSegment | xferAck | xferRefuse => simp [resp]
    | _ => exact hm.elim
  case keepalive | msgReject => intros; exact pay_refl pc _
  case contact => intro f; exact pay_onContact pc _ hp
  case sessInit => intros; exact pay_onSessInit pc _ _ hp
  case sessTerm =>
    intro f r _
    simp only [resp]
    generalize e.proc (.sessTerm f r) = e'
    have h1 : Pay pc e' (if !e'.inTerm then sendSessTerm e' r true else (e', [])).1 0 := by
      split
      · exact pay_sendSessTerm pc e' r true
      · exact pay_refl pc e'
    exact pay_mono (pay_trans (pay_trans (pay_then_view h1 rfl) (pay_flush pc _)) (pay_checkSessTerm pc _)) (by omega)
  case segStart =>
    intro f t x d _ _
    exact pay_mono (pay_view_then (pay_segAccept pc _ f t [] d _) rfl) (by simp [resp])
  case segNext =>
    intro f t x d cur _ _ _
    exact pay_mono (pay_segAccept pc _ f t cur d []) (by simp [resp])
  case ackEnd =>
    intro f t l _ _ _ _
    exact pay_mono (pay_view_then (pay_checkSessTerm pc _) rfl) (by simp [resp])
  case ackMid => intros; exact pay_mono (pay_of_view rfl) (by simp [resp])
  case refuse =>
    intro r t _ _
    simp only [resp]
    -- the filtered queue weighs no more
    have h1 : Pay pc (e.proc (.xferRefuse r t)) { e.proc (.xferRefuse r t) with
        txMap := e.txMap.erase t, txPendAck := e.txPendAck.erase t,
        txPendStart := e.txPendStart.filter (·.tid != t) } 0 := by
      refine pay_lower rfl rfl rfl rfl ?_
      simp only [phi, phiV, vv, Ep.proc]
      have := dPend_filter_le (·.tid != t) e.txPendStart
      omega
    exact pay_mono (pay_trans h1 (pay_trans (pay_dropTmp pc _ t) (pay_checkSessTerm pc _))) (by omega)

def PayRx (pc : Cfg) (e e' : Ep) : Prop :=
  e'.cfg = e.cfg ∧ e'.accepted = e.accepted ∧ e.pqSources ≤ e'.pqSources
  ∧ ∃ done new, e'.processed = e.processed ++ done ∧ e'.emitted = e.emitted ++ new
      ∧ phi e' + R pc e.cfg new ≤ phi e + R e.cfg pc done

theorem payRx_of_pay {pc : Cfg} {e e' : Ep} (h : Pay pc e e' 0) : PayRx pc e e' := by
  obtain ⟨a1, a2, a3, aq, n, a4, a5⟩ := h
  exact ⟨a1, a2, aq, [], n, by simp [a3], a4, by simpa using a5⟩

theorem payRx_trans {pc : Cfg} {e e' e'' : Ep} (h1 : PayRx pc e e') (h2 : PayRx pc e' e'') : PayRx pc e e'' := by
  obtain ⟨a1, a2, aq, d1, n1, a3, a4, a5⟩ := h1
  obtain ⟨b1, b2, bq, d2, n2, b3, b4, b5⟩ := h2
  refine ⟨b1.trans a1, b2.trans a2, Nat.le_trans aq bq, d1 ++ d2, n1 ++ n2, by rw [b3, a3, List.append_assoc],
    by rw [b4, a4, List.append_assoc], ?_⟩
  rw [a1] at b5
  simp only [R_append]; omega

theorem payRx_handleMsgs (pc : Cfg) (ms : List Msg) (e : Ep) (hp : e.cfg.passive = true → pc.passive = false) :
    PayRx pc e (handleMsgs e ms).1 := by
  induction ms generalizing e with
  | nil => exact payRx_of_pay (pay_refl pc e)
  | cons m ms ih =>
    unfold handleMsgs
    split
    · exact payRx_of_pay (pay_refl pc e)
    · simp only []
      obtain ⟨a1, a2, a3, aq, n, a4, a5⟩ := pay_handleMsg pc { e with rxMore := !ms.isEmpty || e.rx.dead } m hp
      have hphi : phi { e with rxMore := !ms.isEmpty || e.rx.dead } = phi e := rfl
      rw [hphi] at a5
      have h1 : PayRx pc e (handleMsg { e with rxMore := !ms.isEmpty || e.rx.dead } m).1 :=
        ⟨a1, a2, aq, [m], n, a3, a4, by simpa using a5⟩
      exact payRx_trans h1 (ih _ (by rw [a1]; exact hp))

theorem payRx_recvRaw (pc : Cfg) (e : Ep) (chunk : Bytes) (hp : e.cfg.passive = true → pc.passive = false) :
    PayRx pc e (recvRaw e chunk).1 := by
  unfold recvRaw
  simp only []
  have h0 : PayRx pc e (rxEntry e chunk) := payRx_of_pay (pay_of_view (by simp only [rxEntry, idleReset]; rfl))
  have h1 : PayRx pc e (handleMsgs (rxEntry e chunk) (feed e.rx chunk).2).1 := payRx_trans h0 (payRx_handleMsgs pc _ _ hp)
  generalize handleMsgs (rxEntry e chunk) (feed e.rx chunk).2 = r at h1 ⊢
  have h2 : PayRx pc e { r.1 with rxMore := false } := payRx_trans h1 (payRx_of_pay (pay_of_view rfl))
  split
  · exact payRx_trans h2 (payRx_of_pay (pay_doClose pc _))
  · exact h2

theorem len_segment_le (flags tid : Nat) (ext seg : Bytes) :
    (encode (.xferSegment flags tid ext seg)).length ≤ 22 + ext.length + seg.length := by
  simp only [encode, Msg.body, u8, u64, u32, List.length_append, beBytes_length]
  split <;> simp only [List.length_append, beBytes_length] <;> omega

theorem len_transferExt (c : Cfg) (n : Nat) (h : c.privExt = false) : (transferExt c true n).length = 13 := by
  simp [transferExt, h, encExtItem, u8, u16, u64]

/-- **One segment is paid for by the data it takes out of the transfer.** -/
theorem pay_sendSegment (pc : Cfg) (e : Ep) (it : TxItem) (sent : Nat) (htmp : e.txTmp = some (it, sent))
    (hle : sent ≤ it.data.length) (hseg : 0 < e.sendSegSize) (hpriv : e.cfg.privExt = false) :
    Pay pc e (sendSegment e it sent).1 0 ∧ (sendSegment e it sent).2.2 = false := by
  unfold sendSegment
  simp only [hpriv, Bool.false_eq_true, Bool.and_false, if_false]
  generalize hflags : ((if (sent + ((it.data.drop sent).take e.sendSegSize).length == it.data.length) = true then flagEnd else 0)
    + if (sent == 0) = true then flagStart else 0) = flags
  generalize hext : (if (sent == 0) = true then transferExt e.cfg true it.data.length else []) = ext
  have hextl : ext.length ≤ 13 := by
    rw [← hext]; split
    · rw [len_transferExt _ _ hpriv]; exact Nat.le_refl _
    · simp
  have hj : ((it.data.drop sent).take e.sendSegSize).length = min e.sendSegSize (it.data.length - sent) := by
    simp [List.length_take, List.length_drop]
  generalize hsg : (it.data.drop sent).take e.sendSegSize = seg at hj ⊢
  have hlen := len_segment_le flags it.tid ext seg
  have hm := pay_sendMessage pc e (.xferSegment flags it.tid ext seg)
  have ht : (sendMessage e (.xferSegment flags it.tid ext seg)).txTmp = some (it, sent) := by
    rw [sendMessage_eq]; exact htmp
  generalize sendMessage e (.xferSegment flags it.tid ext seg) = e2 at hm ht ⊢
  split
  · -- END: the transfer leaves `txTmp`
    rename_i hend
    have hend' : sent + seg.length = it.data.length := by simpa using hend
    obtain ⟨q1, q2, q3, q4, q5, q6⟩ := pq_fields { e2 with txTmp := none, txPendAck := e2.txPendAck ++ [it.tid] }
    refine ⟨pay_then hm q1 q2 q3 q4 q5 ?_, rfl⟩
    have h3 : phi { e2 with txTmp := none, txPendAck := e2.txPendAck ++ [it.tid] } + dItem (it.data.length - sent) = phi e2 := by
      simp only [phi, phiV, vv, ht, dTmp_some, dTmp_none]; omega
    simp only [pSend, resp, dItem] at h3 ⊢; omega
  · rename_i hend
    have hend' : sent + seg.length ≠ it.data.length := by simpa using hend
    refine ⟨pay_then hm rfl rfl rfl rfl (Nat.le_refl _) ?_, rfl⟩
    simp only [phi, phiV, vv, ht, dTmp_some, dItem, pSend, resp]; omega

def SegOK (e : Ep) : Prop :=
  e.cfg.privExt = false ∧ (e.inSess = true → 0 < e.sendSegSize)
  ∧ ∀ it sent, e.txTmp = some (it, sent) → sent ≤ it.data.length ∧ 0 < e.sendSegSize

theorem pay_processQueue (pc : Cfg) (e : Ep) (hok : SegOK e) (hen : e.inSess = true ∨ e.txTmp ≠ none) :
    Pay pc e (processQueue e).1 0 ∧ (processQueue e).2.2 = false := by
  obtain ⟨hpriv, hsess, htmp⟩ := hok
  unfold processQueue
  split
  · rename_i it sent heq
    obtain ⟨h1, h2⟩ := htmp it sent heq
    exact pay_sendSegment pc e it sent heq h1 h2 hpriv
  · rename_i heq
    have hs : e.inSess = true := by
      rcases hen with h | h
      · exact h
      · exact absurd heq h
    split
    · rename_i h; rw [hs] at h; cases h
    split
    · exact ⟨pay_mono (c := 0 + 0) (pay_trans (pay_flush pc e) (pay_checkSessTerm pc _)) (by omega), rfl⟩
    · split
      · exact ⟨pay_refl pc e, rfl⟩
      · rename_i it rest hq
        simp only []
        have hmove : Pay pc e { e with txPendStart := rest, txTmp := some (it, 0), nStarted := e.nStarted + 1 } 0 := by
          refine pay_lower rfl rfl rfl rfl ?_
          simp only [phi, phiV, vv, hq, heq, dPend_cons, dTmp_some, dTmp_none, Nat.sub_zero]; omega
        obtain ⟨h1, h2⟩ := pay_sendSegment pc { e with txPendStart := rest, txTmp := some (it, 0), nStarted := e.nStarted + 1 }
          it 0 rfl (Nat.zero_le _) (hsess hs) hpriv
        exact ⟨pay_mono (c := 0 + 0) (pay_trans hmove h1) (by omega), h2⟩

theorem phi_dec_pq (r : Ep) (h : 1 ≤ r.pqSources) : phi { r with pqSources := r.pqSources - 1 } + 1 = phi r := by
  simp only [phi, phiV, vv]; omega

theorem var_procQueue (pc : Cfg) (e : Ep) (hok : SegOK e) (hpq : 0 < e.pqSources)
    (hen : e.closed = true ∨ e.inSess = true ∨ e.txTmp ≠ none) :
    (step e .procQueue).1.cfg = e.cfg ∧ (step e .procQueue).1.accepted = e.accepted
    ∧ (step e .procQueue).1.processed = e.processed
    ∧ ∃ new, (step e .procQueue).1.emitted = e.emitted ++ new
        ∧ phi (step e .procQueue).1 + R pc e.cfg new < phi e := by
  unfold step
  simp only []
  split
  · refine ⟨rfl, rfl, rfl, [], by simp, ?_⟩
    simp only [phi, phiV, vv, R_nil]; omega
  · rename_i hc
    have hc' : e.closed = false := by simpa using hc
    have hen' : e.inSess = true ∨ e.txTmp ≠ none := by
      rcases hen with h | h
      · rw [hc'] at h; cases h
      · exact h
    have hne : (e.pqSources == 0) = false := by simp; omega
    simp only [hne, Bool.false_eq_true, if_false]
    have key := pay_processQueue pc { e with pqPend := false } hok hen'
    generalize processQueue { e with pqPend := false } = r at key ⊢
    obtain ⟨⟨a1, a2, a3, aq, n, a4, a5⟩, hst⟩ := key
    simp only [hst, Bool.false_eq_true, if_false]
    refine ⟨a1, a2, a3, n, a4, ?_⟩
    have a5' : phi r.1 + R pc e.cfg n ≤ phi e + 0 := a5
    have aq' : e.pqSources ≤ r.1.pqSources := aq
    have := phi_dec_pq r.1 (Nat.le_trans hpq aq')
    omega

theorem phi_doClose_open (e : Ep) (ho : e.closed = false) : phi (doClose e).1 + 2 + 2 * e.txSrc ≤ phi e := by
  unfold doClose
  simp only [ho, Bool.false_eq_true, if_false]
  simp only [phi, phiV, vv, flushPendStart, dPend_nil, unl_true, ho, unl_false]; omega

theorem doClose_fields (e : Ep) : (doClose e).1.cfg = e.cfg ∧ (doClose e).1.accepted = e.accepted
    ∧ (doClose e).1.processed = e.processed ∧ (doClose e).1.emitted = e.emitted
    ∧ (doClose e).1.connBuf = e.connBuf ∧ (doClose e).1.closed = true := by
  unfold doClose
  split
  · rename_i h; exact ⟨rfl, rfl, rfl, rfl, rfl, h⟩
  · exact ⟨rfl, rfl, rfl, rfl, rfl, rfl⟩

theorem checkSessTerm_cases (e : Ep) (ho : e.closed = false) :
    (checkSessTerm e).1 = e ∨ ((checkSessTerm e).1.closed = true ∧ (checkSessTerm e).1.cfg = e.cfg
      ∧ (checkSessTerm e).1.accepted = e.accepted ∧ (checkSessTerm e).1.processed = e.processed
      ∧ (checkSessTerm e).1.emitted = e.emitted ∧ (checkSessTerm e).1.connBuf = e.connBuf
      ∧ phi (checkSessTerm e).1 + 2 + 2 * e.txSrc ≤ phi e) := by
  unfold checkSessTerm
  split
  · right
    obtain ⟨d1, d2, d3, d4, d5, d6⟩ := doClose_fields e
    exact ⟨d6, d1, d2, d3, d4, d5, phi_doClose_open e ho⟩
  · left; rfl

theorem pullTx_fields (e : Ep) : (pullTx e).cfg = e.cfg ∧ (pullTx e).accepted = e.accepted
    ∧ (pullTx e).processed = e.processed ∧ (pullTx e).emitted = e.emitted ∧ (pullTx e).closed = e.closed
    ∧ (pullTx e).txSrc = e.txSrc ∧ phi (pullTx e) ≤ phi e + 1
    ∧ ((pullTx e).connBuf = [] → upEmpty e = true) := by
  unfold pullTx
  split
  · rename_i hlt
    generalize he1 : ({ e with txBuf := e.txBuf.drop chunkSize, connBuf := e.connBuf ++ e.txBuf.take chunkSize } : Ep) = e1
    have f1 : e1.cfg = e.cfg ∧ e1.accepted = e.accepted ∧ e1.processed = e.processed ∧ e1.emitted = e.emitted
        ∧ e1.closed = e.closed ∧ e1.txSrc = e.txSrc ∧ phi e1 = phi e
        ∧ e1.connBuf = e.connBuf ++ e.txBuf.take chunkSize := by
      subst he1
      refine ⟨rfl, rfl, rfl, rfl, rfl, rfl, ?_, rfl⟩
      simp only [phi, phiV, vv, List.length_append, List.length_take, List.length_drop]; omega
    obtain ⟨c1, c2, c3, c4, c5, c6, c7, c8⟩ := f1
    have hsb : (sendBufferDecreased e1).cfg = e1.cfg ∧ (sendBufferDecreased e1).accepted = e1.accepted
        ∧ (sendBufferDecreased e1).processed = e1.processed ∧ (sendBufferDecreased e1).emitted = e1.emitted
        ∧ (sendBufferDecreased e1).closed = e1.closed ∧ (sendBufferDecreased e1).txSrc = e1.txSrc
        ∧ phi (sendBufferDecreased e1) ≤ phi e1 + 1 ∧ (sendBufferDecreased e1).connBuf = e1.connBuf := by
      unfold sendBufferDecreased
      split
      · have q6 := (pq_fields e1).2.2.2.2.2
        rw [pqTrigger_eq] at q6 ⊢
        exact ⟨rfl, rfl, rfl, rfl, rfl, rfl, q6, rfl⟩
      · exact ⟨rfl, rfl, rfl, rfl, rfl, rfl, Nat.le_succ _, rfl⟩
    obtain ⟨s1, s2, s3, s4, s5, s6, s7, s8⟩ := hsb
    refine ⟨s1.trans c1, s2.trans c2, s3.trans c3, s4.trans c4, s5.trans c5, s6.trans c6, by omega, ?_⟩
    intro hempty
    rw [s8, c8] at hempty
    have h1 : e.connBuf = [] := (List.append_eq_nil_iff.mp hempty).1
    have h2 : e.txBuf.take chunkSize = [] := (List.append_eq_nil_iff.mp hempty).2
    have h3 : e.txBuf = [] := by
      cases hb : e.txBuf with
      | nil => rfl
      | cons x xs => rw [hb] at h2; simp [chunkSize] at h2
    simp [upEmpty, h1, h3, chunkSize]
  · rename_i hge
    refine ⟨rfl, rfl, rfl, rfl, rfl, rfl, Nat.le_succ _, ?_⟩
    intro hempty
    rw [hempty] at hge
    simp [chunkSize] at hge

theorem writeConn_var (e2 : Ep) (n : Nat) (up : Bool) (hn : 1 ≤ n) (ho2 : e2.closed = false) :
    (writeConn e2 n up).1.cfg = e2.cfg ∧ (writeConn e2 n up).1.processed = e2.processed
    ∧ (writeConn e2 n up).1.emitted = e2.emitted
    ∧ ∃ w, (writeConn e2 n up).1.accepted = e2.accepted ++ w
      ∧ ((1 ≤ w.length ∧ phi (writeConn e2 n up).1 + 3 * w.length ≤ phi e2)
         ∨ (w = [] ∧ e2.connBuf = [] ∧ (writeConn e2 n up).1.connBuf = []
            ∧ (((writeConn e2 n up).1.closed = false ∧ phi (writeConn e2 n up).1 = phi e2
                  ∧ (writeConn e2 n up).1.txSrc = e2.txSrc)
               ∨ ((writeConn e2 n up).1.closed = true ∧ phi (writeConn e2 n up).1 + 2 + 2 * e2.txSrc ≤ phi e2)))) := by
  unfold writeConn
  by_cases hcb : e2.connBuf = []
  · have hcb' : e2.connBuf.isEmpty = true := by rw [hcb]; rfl
    rw [if_pos hcb']
    cases up
    · rw [if_neg (by simp)]
      exact ⟨rfl, rfl, rfl, [], by simp, Or.inr ⟨rfl, hcb, hcb, Or.inl ⟨ho2, rfl, rfl⟩⟩⟩
    · rw [if_pos rfl]
      rcases checkSessTerm_cases e2 ho2 with hsame | ⟨k1, k2, k3, k4, k5, k6, k7⟩
      · rw [hsame]
        exact ⟨rfl, rfl, rfl, [], by simp, Or.inr ⟨rfl, hcb, hcb, Or.inl ⟨ho2, rfl, rfl⟩⟩⟩
      · exact ⟨k2, k4, k5, [], by simp [k3], Or.inr ⟨rfl, hcb, k6.trans hcb, Or.inr ⟨k1, k7⟩⟩⟩
  · have hcb' : ¬ (e2.connBuf.isEmpty = true) := by
      cases h : e2.connBuf with
      | nil => exact absurd h hcb
      | cons x xs => simp
    rw [if_neg hcb']
    simp only []
    have hdl : 1 ≤ (e2.connBuf.take chunkSize).length := by
      cases h : e2.connBuf with
      | nil => exact absurd h hcb
      | cons x xs => simp [chunkSize]
    have hk0 : ¬ ((min n (e2.connBuf.take chunkSize).length == 0) = true) := by
      intro h; rw [beq_iff_eq] at h; omega
    rw [if_neg hk0]
    generalize hkk : min n (e2.connBuf.take chunkSize).length = k
    have hk : 1 ≤ k := by omega
    have hkle : k ≤ e2.connBuf.length := by
      rw [← hkk]; simp only [List.length_take]; omega
    have hwl : ((e2.connBuf.take chunkSize).take k).length = k := by
      rw [List.length_take, ← hkk]; simp only [List.length_take]; omega
    have key : ∀ e3 : Ep, e3 = { e2 with connBuf := e2.connBuf.drop k, accepted := e2.accepted ++ (e2.connBuf.take chunkSize).take k } →
        ∀ e4 : Ep, (e4 = e3 ∨ (e4.closed = true ∧ e4.cfg = e3.cfg ∧ e4.accepted = e3.accepted ∧ e4.processed = e3.processed
            ∧ e4.emitted = e3.emitted ∧ e4.connBuf = e3.connBuf ∧ phi e4 + 2 + 2 * e3.txSrc ≤ phi e3)) →
        e4.cfg = e2.cfg ∧ e4.processed = e2.processed ∧ e4.emitted = e2.emitted
        ∧ ∃ w, e4.accepted = e2.accepted ++ w ∧ ((1 ≤ w.length ∧ phi e4 + 3 * w.length ≤ phi e2)
           ∨ (w = [] ∧ e2.connBuf = [] ∧ e4.connBuf = []
              ∧ ((e4.closed = false ∧ phi e4 = phi e2 ∧ e4.txSrc = e2.txSrc) ∨ (e4.closed = true ∧ phi e4 + 2 + 2 * e2.txSrc ≤ phi e2)))) := by
      intro e3 he3 e4 h4
      have f3 : e3.cfg = e2.cfg ∧ e3.processed = e2.processed ∧ e3.emitted = e2.emitted
          ∧ e3.accepted = e2.accepted ++ (e2.connBuf.take chunkSize).take k ∧ phi e3 + 3 * k = phi e2 := by
        subst he3
        refine ⟨rfl, rfl, rfl, rfl, ?_⟩
        simp only [phi, phiV, vv, List.length_drop]; omega
      obtain ⟨t1, t2, t3, t6, t7⟩ := f3
      rcases h4 with rfl | ⟨k1, k2, k3, k4, k5, k6, k7⟩
      · exact ⟨t1, t2, t3, _, t6, Or.inl ⟨by omega, by rw [hwl]; omega⟩⟩
      · exact ⟨k2.trans t1, k4.trans t2, k5.trans t3, _, k3.trans t6, Or.inl ⟨by omega, by rw [hwl]; omega⟩⟩
    have ho3 : ({ e2 with connBuf := e2.connBuf.drop k, accepted := e2.accepted ++ (e2.connBuf.take chunkSize).take k } : Ep).closed = false := ho2
    split
    · exact key _ rfl _ (checkSessTerm_cases _ ho3)
    · exact key _ rfl _ (Or.inl rfl)

theorem pump_finish (e e4 : Ep) (b : Bool) (w : Bytes) (h1 : e4.cfg = e.cfg) (h2 : e4.processed = e.processed)
    (h3 : e4.emitted = e.emitted) (h4 : e4.accepted = e.accepted ++ w)
    (h5 : phi e4 + w.length < phi e ∨ (b = false ∧ 1 ≤ e4.txSrc ∧ phi e4 + w.length < phi e + 2)) :
    let e5 : Ep := { e4 with txWatch := e4.txWatch && b, txSrc := if b then e4.txSrc else e4.txSrc - 1 }
    e5.cfg = e.cfg ∧ e5.processed = e.processed ∧ e5.emitted = e.emitted
    ∧ ∃ w, e5.accepted = e.accepted ++ w ∧ phi e5 + w.length < phi e := by
  intro e5
  refine ⟨h1, h2, h3, w, h4, ?_⟩
  rcases h5 with h5 | ⟨hb, hs, h5⟩
  · have hle : phi e5 ≤ phi e4 := by
      simp only [e5, phi, phiV, vv]; split <;> omega
    omega
  · subst hb
    have : phi e5 + 2 = phi e4 := by
      simp only [e5, phi, phiV, vv, Bool.false_eq_true, if_false]; omega
    omega

theorem var_pump (e : Ep) (n : Nat) (hn : 1 ≤ n) (ho : e.closed = false) (hsrc : 0 < e.txSrc) :
    (step e (.pump n)).1.cfg = e.cfg ∧ (step e (.pump n)).1.processed = e.processed
    ∧ (step e (.pump n)).1.emitted = e.emitted
    ∧ ∃ w, (step e (.pump n)).1.accepted = e.accepted ++ w ∧ phi (step e (.pump n)).1 + w.length < phi e := by
  rw [step_pump_open e n ho hsrc]
  simp only []
  unfold pump
  have hup1 : upEmpty { e with txIdle := false } = upEmpty e := rfl
  obtain ⟨p1, p2, p3, p4, p5, p6, p7, p8⟩ := pullTx_fields { e with txIdle := false }
  rw [hup1] at p8 ⊢
  generalize pullTx { e with txIdle := false } = e2 at p1 p2 p3 p4 p5 p6 p7 p8 ⊢
  have g1 : e2.cfg = e.cfg := p1
  have g2 : e2.accepted = e.accepted := p2
  have g3 : e2.processed = e.processed := p3
  have g4 : e2.emitted = e.emitted := p4
  have g6 : e2.txSrc = e.txSrc := p6
  have g7 : phi e2 ≤ phi e + 1 := p7
  have ho2 : e2.closed = false := p5.trans ho
  obtain ⟨w1, w2, w3, w, w4, w5⟩ := writeConn_var e2 n (upEmpty e) hn ho2
  generalize writeConn e2 n (upEmpty e) = r at w1 w2 w3 w4 w5 ⊢
  refine pump_finish e r.1 _ w (w1.trans g1) (w2.trans g3) (w3.trans g4) (by rw [w4, g2]) ?_
  rcases w5 with ⟨wl, wphi⟩ | ⟨rfl, hcb, hrc, hcl⟩
  · left; omega
  · have hup : upEmpty e = true := p8 hcb
    rcases hcl with ⟨c1, c2, c3⟩ | ⟨c1, c2⟩
    · right
      refine ⟨by rw [c1, hrc, hup]; rfl, by omega, ?_⟩
      simp only [List.length_nil]; omega
    · left
      simp only [List.length_nil]; omega

theorem var_rxEof (e : Ep) (ho : e.closed = false) :
    (step e .rxEof).1.cfg = e.cfg ∧ (step e .rxEof).1.accepted = e.accepted
    ∧ (step e .rxEof).1.processed = e.processed ∧ (step e .rxEof).1.emitted = e.emitted
    ∧ phi (step e .rxEof).1 < phi e := by
  unfold step
  simp only [ho, Bool.false_eq_true, if_false]
  obtain ⟨d1, d2, d3, d4, -, -⟩ := doClose_fields e
  have := phi_doClose_open e ho
  exact ⟨d1, d2, d3, d4, by omega⟩

theorem var_rx (pc : Cfg) (e : Ep) (chunk : Bytes) (ho : e.closed = false)
    (hp : e.cfg.passive = true → pc.passive = false) : PayRx pc e (step e (.rx chunk)).1 := by
  rw [step_rx e chunk ho]
  exact payRx_recvRaw pc e chunk hp

end Var
end Tcpcl
end DtnVerif
