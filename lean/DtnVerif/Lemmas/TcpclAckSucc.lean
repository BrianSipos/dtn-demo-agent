/-
  Every processed final XFER_ACK either made its transfer succeed, or some MSG_REJECT has been emitted
  (the statement does not tie the reject to that acknowledgement).
-/
import DtnVerif.Lemmas.TcpclAckSeq
namespace DtnVerif
namespace Tcpcl

def Msg.isRej : Msg → Bool
  | .msgReject .. => true
  | _ => false

def asOK (su : List Nat) (em : List Msg) : Msg → Prop
  | .xferAck f t _ => hasEnd f = true → t ∈ su ∨ ∃ r ∈ em, r.isRej = true
  | _ => True

theorem asOK_mono {su su' : List Nat} {em em' : List Msg} {m : Msg} (hs : ∀ t ∈ su, t ∈ su') (he : ∀ x ∈ em, x ∈ em')
    (h : asOK su em m) : asOK su' em' m := by
  cases m <;> simp only [asOK] at h ⊢
  intro hend
  rcases h hend with h | ⟨r, hr, hj⟩
  · exact Or.inl (hs _ h)
  · exact Or.inr ⟨r, he _ hr, hj⟩

def ASInv (e : Ep) : Prop := ∀ m ∈ e.processed, asOK e.successLog e.emitted m

structure ASView where
  processed : List Msg
  successLog : List Nat
  emitted : List Msg

def Ep.asView (e : Ep) : ASView := ⟨e.processed, e.successLog, e.emitted⟩

@[simp] theorem sv_kaReset (e : Ep) : (kaReset e).asView = e.asView := rfl
@[simp] theorem sv_idleReset (e : Ep) : (idleReset e).asView = e.asView := rfl

theorem Tr.emitted_sub {k : Kind} {a b : Ep} (h : Tr k a b) : ∀ x ∈ a.emitted, x ∈ b.emitted := by
  rcases h.emitted with he | ⟨m, he, -⟩ <;> rw [he]
  · exact fun _ h => h
  · exact fun _ h => List.mem_append_left _ h

theorem asInv_emit {a b : Ep} (hi : ASInv a) (he : ∀ x ∈ a.emitted, x ∈ b.emitted)
    (h : (b.processed, b.successLog) = (a.processed, a.successLog)) : ASInv b := by
  simp only [Prod.mk.injEq] at h
  intro m hm
  rw [h.1] at hm
  rw [h.2]
  exact asOK_mono (fun _ h => h) he (hi m hm)

theorem asInv_rx {e e' : Ep} (m : Msg) (x : List Nat) (y : List Msg)
    (h : e'.asView = ⟨e.processed ++ [m], e.successLog ++ x, e.emitted ++ y⟩) (hi : ASInv e)
    (hm : asOK (e.successLog ++ x) (e.emitted ++ y) m) : ASInv e' := by
  simp only [Ep.asView, ASView.mk.injEq] at h
  obtain ⟨h1, h2, h3⟩ := h
  intro z hz
  rw [h2, h3]
  rw [h1, List.mem_append, List.mem_singleton] at hz
  rcases hz with hz | hz
  · exact asOK_mono (fun _ h => List.mem_append_left _ h) (fun _ h => List.mem_append_left _ h) (hi z hz)
  · exact hz ▸ hm

/-- a final acknowledgement is recorded together with the success of its transfer (`ackEnd`) or with a
    MSG_REJECT (`reject`) -/
theorem asInv_tr {k : Kind} {a b : Ep} (h : Tr k a b) (hi : ASInv a) : ASInv b := by
  have hem := h.emitted_sub
  cases h with
  | proc _ m hp =>
    refine asInv_rx m [] [] (by simp only [Ep.asView, Ep.proc, List.append_nil]) hi ?_
    cases m <;> first | trivial | cases hp
  | reject _ r m =>
    refine asInv_rx m [] [.msgReject m.type r]
      (by simp only [Ep.asView, Ep.sent, Ep.proc, List.append_nil]) hi ?_
    cases m <;> simp only [asOK]
    exact fun _ => Or.inr ⟨_, List.mem_append_right _ (List.mem_singleton_self _), rfl⟩
  | merge _ p x =>
    exact asInv_rx (.sessInit p.keepalive p.segMru p.xferMru p.node x) [] []
      (by simp only [Ep.asView, mergeSession, kaReset, idleReset, Ep.proc, List.append_nil]) hi trivial
  | gotTerm _ f r _ _ =>
    exact asInv_rx (.sessTerm f r) [] [] (by simp only [Ep.asView, Ep.proc, List.append_nil]) hi trivial
  | rxMid _ f t x d cur _ _ _ =>
    exact asInv_rx (.xferSegment f t x d) [] [.xferAck f t (cur ++ d).length]
      (by simp only [Ep.asView, Ep.sent, Ep.proc, List.append_nil]) hi trivial
  | rxEnd _ f t x d cur _ _ _ =>
    exact asInv_rx (.xferSegment f t x d) [] [.xferAck f t (cur ++ d).length]
      (by simp only [Ep.asView, Ep.sent, Ep.proc, List.append_nil]) hi trivial
  | ackEnd _ f t l _ _ _ _ =>
    exact asInv_rx (.xferAck f t l) [t] [] (by simp only [Ep.asView, Ep.proc, List.append_nil]) hi
      (fun _ => Or.inl (List.mem_append_right _ (List.mem_singleton_self _)))
  | ackMid _ f t l _ _ he =>
    exact asInv_rx (.xferAck f t l) [] [] (by simp only [Ep.asView, Ep.proc, List.append_nil]) hi
      (fun h => absurd h (by simp [he]))
  | refused _ r t _ _ =>
    exact asInv_rx (.xferRefuse r t) [] [] (by simp only [Ep.asView, Ep.proc, List.append_nil]) hi trivial
  | _ =>
    exact asInv_emit hi hem rfl

theorem asInv_step (e : Ep) (ev : Ev) (hi : ASInv e) : ASInv (step e ev).1 :=
  step_inv (fun _ _ _ => asInv_tr) e ev hi

theorem asInv_init (cfg : Cfg) : ASInv { cfg := cfg } := by
  intro m hm; simp at hm

theorem asInv_run (evs : List Ev) (e : Ep) (hi : ASInv e) : ASInv (runEp e evs) :=
  run_inv asInv_step evs e hi

end Tcpcl
end DtnVerif
