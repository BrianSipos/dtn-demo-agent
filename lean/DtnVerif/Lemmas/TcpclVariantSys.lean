/-
  The variant function of the two-endpoint system: every enabled internal event (a `_process_queue`
  idle source firing, a TX callback with the socket taking at least one octet, a delivery of octets
  in flight, an end-of-stream) strictly lowers `mu`. So from any reachable state at most `mu s`
  internal events can happen before the system is quiescent — with no user action and no timer.
-/
import DtnVerif.Lemmas.TcpclVariant
import DtnVerif.Lemmas.TcpclSys
namespace DtnVerif
namespace Tcpcl
namespace Var

/-- the part of the measure owned by the writer `w` of one direction: its own potential, the octets in
    flight to the reader `r`, and what the messages `r` has not processed yet may cost `r` -/
def muHalf (w r : Ep) (pipe : Bytes) : Nat :=
  phi w + pipe.length + R r.cfg w.cfg (w.emitted.drop r.processed.length)

def mu (s : Sys) : Nat := muHalf s.a s.b s.toB + muHalf s.b s.a s.toA

/-- the internal events which can still happen without the user and without a timer -/
def Enabled (s : Sys) : SysEv → Prop
  | .atA .procQueue => 0 < s.a.pqSources ∧ (s.a.closed = true ∨ s.a.inSess = true ∨ s.a.txTmp ≠ none)
  | .atB .procQueue => 0 < s.b.pqSources ∧ (s.b.closed = true ∨ s.b.inSess = true ∨ s.b.txTmp ≠ none)
  | .atA (.pump n) => 1 ≤ n ∧ s.a.closed = false ∧ 0 < s.a.txSrc
  | .atB (.pump n) => 1 ≤ n ∧ s.b.closed = false ∧ 0 < s.b.txSrc
  | .deliverB k => s.b.closed = false ∧ s.toB.take k ≠ []
  | .deliverA k => s.a.closed = false ∧ s.toA.take k ≠ []
  | .eofB => s.a.closed = true ∧ s.toB = [] ∧ s.b.closed = false
  | .eofA => s.b.closed = true ∧ s.toA = [] ∧ s.a.closed = false
  | _ => False

theorem segOK_of_inv {e : Ep} (hi : EpInv e) : SegOK e := by
  obtain ⟨P, hP⟩ := hi.tx
  refine ⟨hP.noPriv, hP.seg, ?_⟩
  intro it sent h
  obtain ⟨-, -, -, hlt, hs⟩ := hP.tmp it sent h
  exact ⟨Nat.le_of_lt hlt, hP.seg hs⟩

theorem half_writer (w w' r : Ep) (pipe wire : Bytes) (new : List Msg)
    (hpre : r.processed.length ≤ w.emitted.length) (hcfg : w'.cfg = w.cfg) (hem : w'.emitted = w.emitted ++ new) :
    muHalf w' r (pipe ++ wire) = phi w' + R r.cfg w.cfg new + wire.length + pipe.length
      + R r.cfg w.cfg (w.emitted.drop r.processed.length) := by
  unfold muHalf
  rw [hcfg, hem, List.drop_append_of_le_length hpre, R_append, List.length_append]
  omega

theorem half_reader_same (w r r' : Ep) (pipe : Bytes) (hcfg : r'.cfg = r.cfg) (hpr : r'.processed = r.processed) :
    muHalf w r' pipe = muHalf w r pipe := by
  unfold muHalf; rw [hcfg, hpr]

theorem half_reader_done (w r r' : Ep) (pipe : Bytes) (done : List Msg) (hcfg : r'.cfg = r.cfg)
    (hpr : r'.processed = r.processed ++ done) (hpre : r'.processed <+: w.emitted) :
    muHalf w r' pipe + R r.cfg w.cfg done = muHalf w r pipe := by
  unfold muHalf
  obtain ⟨rest, hrest⟩ := hpre
  rw [hcfg, hpr] at *
  rw [← hrest]
  have h1 : ((r.processed ++ done) ++ rest).drop (r.processed ++ done).length = rest := List.drop_left
  have h2 : ((r.processed ++ done) ++ rest).drop r.processed.length = done ++ rest := by
    rw [List.append_assoc]; exact List.drop_left
  rw [h1, h2, R_append]
  omega

inductive EnabledAt (me : Ep) (inp : Bytes) : Ev → Bytes → Prop
  | procQueue (hq : 0 < me.pqSources) (h : me.closed = true ∨ me.inSess = true ∨ me.txTmp ≠ none) :
      EnabledAt me inp .procQueue inp
  | pump (n : Nat) (hn : 1 ≤ n) (ho : me.closed = false) (hsrc : 0 < me.txSrc) : EnabledAt me inp (.pump n) inp
  | rx (k : Nat) (ho : me.closed = false) (hk : inp.take k ≠ []) : EnabledAt me inp (.rx (inp.take k)) (inp.drop k)
  | eof (ho : me.closed = false) : EnabledAt me inp .rxEof inp

theorem enabled_cases (s : Sys) (ev : SysEv) (hen : Enabled s ev) :
    (∃ e p, EnabledAt s.a s.toA e p
        ∧ sysStep s ev = ⟨(step s.a e).1, s.b, s.toB ++ newWire s.a (step s.a e).1, p⟩)
    ∨ (∃ e p, EnabledAt s.b s.toB e p
        ∧ sysStep s ev = ⟨s.a, (step s.b e).1, p, s.toA ++ newWire s.b (step s.b e).1⟩) := by
  have hcond : ∀ (e : Ep) (c : Bytes), e.closed = false → c ≠ [] → ¬ (e.closed || c.isEmpty) = true := by
    intro e c ho hc h
    rw [ho, Bool.false_or, List.isEmpty_iff] at h
    exact hc h
  cases ev with
  | atA e =>
    cases e with
    | procQueue => exact .inl ⟨_, _, .procQueue hen.1 hen.2, rfl⟩
    | pump n => exact .inl ⟨_, _, .pump n hen.1 hen.2.1 hen.2.2, rfl⟩
    | _ => exact hen.elim
  | atB e =>
    cases e with
    | procQueue => exact .inr ⟨_, _, .procQueue hen.1 hen.2, rfl⟩
    | pump n => exact .inr ⟨_, _, .pump n hen.1 hen.2.1 hen.2.2, rfl⟩
    | _ => exact hen.elim
  | deliverA k => exact .inl ⟨_, _, .rx k hen.1 hen.2, if_neg (hcond _ _ hen.1 hen.2)⟩
  | deliverB k => exact .inr ⟨_, _, .rx k hen.1 hen.2, if_neg (hcond _ _ hen.1 hen.2)⟩
  | eofA => exact .inl ⟨_, _, .eof hen.2.2, sysStep_eofA s (by rw [hen.1, hen.2.1]; rfl)⟩
  | eofB => exact .inr ⟨_, _, .eof hen.2.2, sysStep_eofB s (by rw [hen.1, hen.2.1]; rfl)⟩

theorem mu_move (me peer : Ep) (inp out inp' : Bytes) (e : Ev) (hen : EnabledAt me inp e inp')
    (hme : EpInv me) (hpre : peer.processed <+: me.emitted)
    (hpre' : (step me e).1.processed <+: peer.emitted)
    (hpas : ¬ (me.cfg.passive = true ∧ peer.cfg.passive = true)) :
    muHalf (step me e).1 peer (out ++ newWire me (step me e).1) + muHalf peer (step me e).1 inp'
      < muHalf me peer out + muHalf peer me inp := by
  cases hen with
  | procQueue hq hcase =>
    obtain ⟨c1, c2, c3, new, c4, c5⟩ := var_procQueue peer.cfg me (segOK_of_inv hme) hq hcase
    rw [newWire_of_append _ _ [] (by rw [c2, List.append_nil]),
      half_writer me _ peer out [] new hpre.length_le c1 c4, half_reader_same peer me _ inp c1 c3]
    unfold muHalf
    simp only [List.length_nil]; omega
  | pump n hn ho hsrc =>
    obtain ⟨c1, c3, c4, w, c2, c5⟩ := var_pump me n hn ho hsrc
    rw [newWire_of_append _ _ w c2,
      half_writer me _ peer out w [] hpre.length_le c1 (by rw [c4, List.append_nil]),
      half_reader_same peer me _ inp c1 c3]
    unfold muHalf
    simp only [R_nil]; omega
  | rx k ho hne =>
    have hpa : me.cfg.passive = true → peer.cfg.passive = false := by
      intro h; cases hb : peer.cfg.passive
      · rfl
      · exact absurd ⟨h, hb⟩ hpas
    obtain ⟨c1, c2, cq, done, new, c3, c4, c5⟩ := var_rx peer.cfg me (inp.take k) ho hpa
    have hd := half_reader_done peer me _ (inp.drop k) done c1 c3 hpre'
    rw [newWire_of_append _ _ [] (by rw [c2, List.append_nil]),
      half_writer me _ peer out [] new hpre.length_le c1 c4]
    have hlen : (inp.drop k).length + 1 ≤ inp.length := by
      have : 1 ≤ (inp.take k).length := by
        cases h : inp.take k with
        | nil => exact absurd h hne
        | cons x xs => simp
      simp only [List.length_take, List.length_drop] at *; omega
    unfold muHalf at hd ⊢
    simp only [List.length_nil]; omega
  | eof ho =>
    obtain ⟨c1, c2, c3, c4, c5⟩ := var_rxEof me ho
    rw [newWire_rxEof, List.append_nil, half_reader_same peer me _ inp c1 c3]
    unfold muHalf
    rw [c1, c4]; omega

theorem mu_step (s : Sys) (ev : SysEv) (hi : SysInv s) (hwf : SysWF s)
    (hi' : SysInv (sysStep s ev)) (hwf' : SysWF (sysStep s ev))
    (hpas : ¬ (s.a.cfg.passive = true ∧ s.b.cfg.passive = true)) (hen : Enabled s ev) :
    mu (sysStep s ev) < mu s := by
  obtain ⟨pB, pA⟩ := transport s hi hwf
  obtain ⟨pB', pA'⟩ := transport _ hi' hwf'
  rcases enabled_cases s ev hen with ⟨e, p, he, h1⟩ | ⟨e, p, he, h1⟩
  · rw [h1] at pA' ⊢
    exact mu_move s.a s.b s.toA s.toB p e he hi.ia pB pA' hpas
  · rw [h1] at pB' ⊢
    have h2 := mu_move s.b s.a s.toB s.toA p e he hi.ib pA pB' fun h => hpas ⟨h.2, h.1⟩
    exact Nat.lt_of_le_of_lt (Nat.le_of_eq (Nat.add_comm _ _)) (Nat.lt_of_lt_of_eq h2 (Nat.add_comm _ _))

def EnabledRun : Sys → List SysEv → Prop
  | _, [] => True
  | s, ev :: rest => Enabled s ev ∧ EnabledRun (sysStep s ev) rest

theorem enabled_sendOK (s : Sys) (ev : SysEv) (h : Enabled s ev) : ev.sendOK := by
  cases ev with
  | atA e =>
    cases e with
    | send d => exact h.elim
    | _ => trivial
  | atB e =>
    cases e with
    | send d => exact h.elim
    | _ => trivial
  | _ => trivial

theorem bounded_run (int : List SysEv) (s : Sys) (hi : SysInv s)
    (hwf : ∀ pre, pre <+: int → SysWF (runSys s pre))
    (hpas : ¬ (s.a.cfg.passive = true ∧ s.b.cfg.passive = true)) (hen : EnabledRun s int) :
    int.length + mu (runSys s int) ≤ mu s := by
  induction int generalizing s with
  | nil => exact Nat.le_of_eq (Nat.zero_add _)
  | cons ev rest ih =>
    obtain ⟨h1, h2⟩ := hen
    have h0 : SysWF s := hwf [] List.nil_prefix
    have hwf1 : SysWF (sysStep s ev) := hwf [ev] (List.cons_prefix_cons.mpr ⟨rfl, List.nil_prefix⟩)
    have hi1 := sysInv_step s ev hi h0 (enabled_sendOK s ev h1)
    have hdec := mu_step s ev hi h0 hi1 hwf1 hpas h1
    obtain ⟨ca, cb⟩ := cfg_sysStep s ev
    have := ih (sysStep s ev) hi1
      (fun pre hpre => hwf (ev :: pre) (List.cons_prefix_cons.mpr ⟨rfl, hpre⟩))
      (by rw [ca, cb]; exact hpas) h2
    rw [runSys_cons]
    simp only [List.length_cons]; omega

instance (s : Sys) (ev : SysEv) : Decidable (Enabled s ev) := by
  unfold Enabled
  split <;> infer_instance

instance : (s : Sys) → (l : List SysEv) → Decidable (EnabledRun s l)
  | _, [] => isTrue trivial
  | s, ev :: rest =>
    have := instDecidableEnabledRun (sysStep s ev) rest
    by unfold EnabledRun; infer_instance

theorem enabledRun_sendOK (s : Sys) (int : List SysEv) (h : EnabledRun s int) : ∀ ev ∈ int, ev.sendOK := by
  induction int generalizing s with
  | nil => intro ev hev; cases hev
  | cons e rest ih =>
    intro ev hev
    rcases List.mem_cons.mp hev with rfl | h'
    · exact enabled_sendOK s _ h.1
    · exact ih _ h.2 ev h'

theorem sendOK_append {s : Sys} {sch int : List SysEv} (hs : ∀ ev ∈ sch, ev.sendOK) (hen : EnabledRun s int) :
    ∀ ev ∈ sch ++ int, ev.sendOK := by
  intro ev hev
  rcases List.mem_append.mp hev with h | h
  · exact hs ev h
  · exact enabledRun_sendOK _ _ hen ev h

/-- one representative of every kind of internal event (for the examples) -/
def cands : List SysEv :=
  [.atA (.pump 10240), .atB (.pump 10240), .deliverB 100, .deliverA 100, .atA .procQueue, .atB .procQueue, .eofA, .eofB]

def Stuck (s : Sys) : Prop := ∀ ev, ¬ Enabled s ev

/-- the peer of an open endpoint is open too, else end-of-stream would be enabled -/
theorem Stuck.spec {s : Sys} (h : Stuck s) :
    (s.a.closed = false → s.a.txSrc = 0 ∧ s.toA = [] ∧ s.b.closed = false)
    ∧ (s.b.closed = false → s.b.txSrc = 0 ∧ s.toB = [] ∧ s.a.closed = false)
    ∧ (s.a.inSess = true → s.a.pqSources = 0) ∧ (s.b.inSess = true → s.b.pqSources = 0) := by
  refine ⟨fun ho => ?_, fun ho => ?_, fun hs => ?_, fun hs => ?_⟩
  · have hp : s.toA = [] := by
      cases hp : s.toA with
      | nil => rfl
      | cons x xs => exact absurd (show Enabled s (.deliverA 1) from ⟨ho, by rw [hp]; simp⟩) (h _)
    refine ⟨Nat.eq_zero_of_not_pos fun hn => h (.atA (.pump 1)) ⟨Nat.le_refl 1, ho, hn⟩, hp, ?_⟩
    cases hc : s.b.closed
    · rfl
    · exact absurd (show Enabled s .eofA from ⟨hc, hp, ho⟩) (h _)
  · have hp : s.toB = [] := by
      cases hp : s.toB with
      | nil => rfl
      | cons x xs => exact absurd (show Enabled s (.deliverB 1) from ⟨ho, by rw [hp]; simp⟩) (h _)
    refine ⟨Nat.eq_zero_of_not_pos fun hn => h (.atB (.pump 1)) ⟨Nat.le_refl 1, ho, hn⟩, hp, ?_⟩
    cases hc : s.a.closed
    · rfl
    · exact absurd (show Enabled s .eofB from ⟨hc, hp, ho⟩) (h _)
  · exact Nat.eq_zero_of_not_pos fun hn => h (.atA .procQueue) ⟨hn, .inr (.inl hs)⟩
  · exact Nat.eq_zero_of_not_pos fun hn => h (.atB .procQueue) ⟨hn, .inr (.inl hs)⟩

end Var
end Tcpcl
end DtnVerif
