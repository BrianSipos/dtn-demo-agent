/-
  The wake-up invariant at both endpoints of every reachable state of the two-endpoint system, and what the
  per-endpoint invariants give for one direction of the connection (`w` sending to `r`) through transport.
-/
import DtnVerif.Lemmas.TcpclSys
import DtnVerif.Lemmas.TcpclKInv
import DtnVerif.Lemmas.TcpclAck
import DtnVerif.Lemmas.TcpclSuccInv
import DtnVerif.Lemmas.TcpclWake
namespace DtnVerif
namespace Tcpcl

theorem wakeHyp_of_epInv {e : Ep} (hi : EpInv e) :
    e.cfg.privExt = false ∧ (e.txTmp.isSome = true → 0 < e.sendSegSize) := by
  obtain ⟨P, hP⟩ := hi.tx
  refine ⟨hP.noPriv, ?_⟩
  intro ht
  cases h : e.txTmp with
  | none => rw [h] at ht; simp at ht
  | some p =>
    obtain ⟨it, sent⟩ := p
    have := hP.tmp it sent h
    exact hP.seg this.2.2.2.2

theorem wake_reach (cfgA cfgB : Cfg) (sch : List SysEv)
    (a1 : 0 < cfgA.segInit) (a2 : cfgA.privExt = false) (a3 : 0 < cfgA.segMru)
    (b1 : 0 < cfgB.segInit) (b2 : cfgB.privExt = false) (b3 : 0 < cfgB.segMru)
    (hwf : ∀ pre, pre <+: sch → SysWF (runSys (initSys cfgA cfgB) pre))
    (hs : ∀ ev ∈ sch, ev.sendOK) :
    WakeInv (runSys (initSys cfgA cfgB) sch).a ∧ WakeInv (runSys (initSys cfgA cfgB) sch).b :=
  (runSys_induct (fun s => WakeInv s.a ∧ WakeInv s.b)
    (fun s ev hi _ _ _ hw =>
      sys_lift_step' (fun e => e.cfg.privExt = false ∧ (e.txTmp.isSome = true → 0 < e.sendSegSize)) WakeInv
        (fun e ev' _ H I => wake_step e ev' H.1 H.2 I) s ev (wakeHyp_of_epInv hi.ia) (wakeHyp_of_epInv hi.ib) hw)
    sch _ (sysInv_init cfgA cfgB a1 a2 a3 b1 b2 b3)
    ⟨wake_step _ _ a2 (by simp) (wake_init cfgA), wake_step _ _ b2 (by simp) (wake_init cfgB)⟩ hwf hs).2

theorem success_after_receipt (w r : Ep) (hw : EpInv w) (hr : EpInv r) (hs : SuccInv w) (hk : AckInv r)
    (ht : w.processed <+: r.emitted) (ht' : r.processed <+: w.emitted) :
    ∀ t ∈ w.successLog, ∃ d, (t, d) ∈ r.rxLog ∧ (⟨t, d⟩ : TxItem) ∈ w.sendLog := by
  intro t htm
  obtain ⟨f, l, hend, hmem⟩ := hs t htm
  obtain ⟨d, hd, _⟩ := hk _ (ht.subset hmem) hend
  refine ⟨d, hd, ?_⟩
  obtain ⟨it, hit, heq⟩ := List.mem_map.mp ((rxLog_prefix_sendLog w r hw hr ht').subset hd)
  cases it
  cases heq
  exact hit

/-- with nothing left awaiting its final acknowledgement, every transfer whose END segment is out has succeeded
    (a faithful peer never refuses), hence has been received -/
theorem ended_received (w r : Ep) (hw : EpInv w) (hr : EpInv r) (hs : SuccInv w) (hk : AckInv r) (hkw : KInv w)
    (ht : w.processed <+: r.emitted) (ht' : r.processed <+: w.emitted) (hpa : w.txPendAck = []) :
    ∀ f t x d, Msg.xferSegment f t x d ∈ w.emitted → hasEnd f = true →
      t ∈ w.successLog ∧ ∃ d', (t, d') ∈ r.rxLog ∧ (⟨t, d'⟩ : TxItem) ∈ w.sendLog := by
  intro f t x d hm he
  have hsu : t ∈ w.successLog := by
    have h : t ∈ w.txPendAck ∨ t ∈ w.successLog ∨ Refused t w.processed := hkw _ hm he
    rcases h with h | h | ⟨rr, hrr⟩
    · rw [hpa] at h; cases h
    · exact h
    · exact (hr.emit _ (ht.subset hrr)).elim
  exact ⟨hsu, success_after_receipt w r hw hr hs hk ht ht' t hsu⟩

end Tcpcl
end DtnVerif
