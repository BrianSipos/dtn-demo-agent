/-
  Agent-level termination (tcpcl/agent.py): `stop()` leaves no contact open, `shutdown()` leaves
  every remaining contact terminating and closes only contacts which have no session, and the
  `on_stop` callback runs only when no contact is left.
-/
import DtnVerif.Model.TcpclAgent
import DtnVerif.Lemmas.Bytes
namespace DtnVerif
namespace TcpclAgent

def ids (a : Agent) : List Nat := a.handlers.map (·.id)

theorem contactClosed_spec (a : Agent) (id : Nat) :
    (contactClosed a id).1 = { a with handlers := a.handlers.filter (·.id != id) }
    ∧ ∀ o ∈ (contactClosed a id).2, (∃ c ∈ a.handlers, c.id = id)
        ∧ (o = .closed id
           ∨ o = .stopped ∧ a.handlers.filter (·.id != id) = [] ∧ (a.inShutdown = true ∨ a.stopOnClose = true)) := by
  unfold contactClosed
  split
  · rename_i hin
    simp only [List.any_eq_true, beq_iff_eq] at hin
    unfold unbind
    simp only []
    split
    · rename_i hc
      simp only [Bool.and_eq_true, List.isEmpty_iff, Bool.or_eq_true] at hc
      refine ⟨rfl, fun o ho => ⟨hin, ?_⟩⟩
      rcases List.mem_cons.mp ho with rfl | ho
      · exact .inl rfl
      · exact .inr ⟨List.mem_singleton.mp ho, hc⟩
    · exact ⟨rfl, fun o ho => ⟨hin, .inl (List.mem_singleton.mp ho)⟩⟩
  · rename_i h
    simp only [List.any_eq_true, beq_iff_eq, not_exists, not_and] at h
    refine ⟨?_, fun o ho => nomatch ho⟩
    rw [List.filter_eq_self.mpr fun c hc => by simpa using h c hc]

theorem contactClosed_handlers (a : Agent) (id : Nat) :
    (contactClosed a id).1.handlers = a.handlers.filter (·.id != id) := by
  rw [(contactClosed_spec a id).1]

theorem contactClosed_stopped (a : Agent) (id : Nat) (h : AOut.stopped ∈ (contactClosed a id).2) :
    (contactClosed a id).1.handlers = [] ∧ (a.inShutdown = true ∨ a.stopOnClose = true) := by
  rcases ((contactClosed_spec a id).2 _ h).2 with e | ⟨-, h1, h2⟩
  · cases e
  · exact ⟨(contactClosed_handlers a id).trans h1, h2⟩

theorem closeAll_handlers (l : List Nat) (a : Agent) :
    (closeAll a l).1.handlers = a.handlers.filter (fun c => !l.contains c.id) := by
  induction l generalizing a with
  | nil =>
    simp only [closeAll]; symm
    apply List.filter_eq_self.mpr
    intro c _; simp
  | cons x l ih =>
    simp only [closeAll]
    rw [ih, contactClosed_handlers, List.filter_filter]
    apply List.filter_congr
    intro c _
    simp only [List.contains_cons, Bool.not_or, bne, Bool.and_comm]

theorem stop_closes_all (a : Agent) : (stop a).1.handlers = [] := by
  unfold stop
  simp only []
  rw [closeAll_handlers]
  apply List.filter_eq_nil_iff.mpr
  intro c hc
  have hm : (a.handlers.map (·.id)).contains c.id = true := by
    simp only [List.contains_eq_mem, decide_eq_true_eq]
    exact List.mem_map.mpr ⟨c, hc, rfl⟩
  rw [hm]; simp

def Sub (a b : Agent) : Prop :=
  (ids b).Sublist (ids a)
  ∧ ∀ x ∈ b.handlers, ∃ y ∈ a.handlers, y.id = x.id ∧ y.inSess = x.inSess ∧ (y.inTerm = true → x.inTerm = true)

theorem Sub.refl (a : Agent) : Sub a a := ⟨List.Sublist.refl _, fun x hx => ⟨x, hx, rfl, rfl, id⟩⟩

theorem Sub.trans {a b c : Agent} (h1 : Sub a b) (h2 : Sub b c) : Sub a c := by
  refine ⟨h2.1.trans h1.1, fun x hx => ?_⟩
  obtain ⟨y, hy, e1, e2, e3⟩ := h2.2 x hx
  obtain ⟨z, hz, g1, g2, g3⟩ := h1.2 y hy
  exact ⟨z, hz, g1.trans e1, g2.trans e2, fun h => e3 (g3 h)⟩

theorem Sub.nodup {a b : Agent} (h : Sub a b) (hnd : (ids a).Nodup) : (ids b).Nodup := hnd.sublist h.1

theorem Sub.nil {a b : Agent} (h : Sub a b) (ha : a.handlers = []) : b.handlers = [] :=
  List.eq_nil_iff_forall_not_mem.mpr fun x hx => by
    obtain ⟨y, hy, -⟩ := h.2 x hx
    rw [ha] at hy; cases hy

theorem sub_filter (a : Agent) (p : Contact → Bool) : Sub a { a with handlers := a.handlers.filter p } :=
  ⟨List.Sublist.map _ List.filter_sublist, fun x hx => ⟨x, (List.mem_filter.mp hx).1, rfl, rfl, id⟩⟩

theorem ids_map (a : Agent) (f : Contact → Contact) (hf : ∀ x, (f x).id = x.id) :
    ids { a with handlers := a.handlers.map f } = ids a := by
  unfold ids
  rw [List.map_map]
  exact List.map_congr_left fun x _ => hf x

theorem sub_map (a : Agent) (f : Contact → Contact)
    (hf : ∀ x, (f x).id = x.id ∧ (f x).inSess = x.inSess ∧ (x.inTerm = true → (f x).inTerm = true)) :
    Sub a { a with handlers := a.handlers.map f } := by
  refine ⟨by rw [ids_map a f fun x => (hf x).1]; exact List.Sublist.refl _, fun x hx => ?_⟩
  obtain ⟨y, hy, rfl⟩ := List.mem_map.mp hx
  exact ⟨y, hy, (hf y).1.symm, (hf y).2.1.symm, (hf y).2.2⟩

theorem shutdownOne_cases (a : Agent) (c : Contact) :
    ((∀ x ∈ a.handlers, x.id ≠ c.id) ∧ shutdownOne a c = (a, []))
    ∨ ∃ cur ∈ a.handlers, cur.id = c.id ∧
        ((cur.inTerm = true ∧ shutdownOne a c = (a, []))
         ∨ (cur.inSess = true ∧ cur.inTerm = false ∧ shutdownOne a c =
              ({ a with handlers := a.handlers.map fun x => if x.id == c.id then { x with inTerm := true } else x },
               [.sessTerm c.id]))
         ∨ (cur.inSess = false ∧ cur.inTerm = false ∧ shutdownOne a c = contactClosed a c.id)) := by
  unfold shutdownOne
  split
  · rename_i hnone
    refine .inl ⟨fun x hx hid => ?_, rfl⟩
    simpa [hid] using List.find?_eq_none.mp hnone x hx
  · rename_i cur hcur
    refine .inr ⟨cur, List.mem_of_find?_eq_some hcur, by simpa using List.find?_some hcur, ?_⟩
    cases hs : cur.inSess <;> cases ht : cur.inTerm
    · exact .inr (.inr ⟨rfl, rfl, rfl⟩)
    · exact .inl ⟨rfl, rfl⟩
    · exact .inr (.inl ⟨rfl, rfl, rfl⟩)
    · exact .inl ⟨rfl, rfl⟩

theorem shutdownOne_flags (a : Agent) (c : Contact) :
    (shutdownOne a c).1.inShutdown = a.inShutdown ∧ (shutdownOne a c).1.stopOnClose = a.stopOnClose := by
  rcases shutdownOne_cases a c with ⟨-, h⟩ | ⟨_, -, -, ⟨-, h⟩ | ⟨-, -, h⟩ | ⟨-, -, h⟩⟩ <;> rw [h]
  · exact ⟨rfl, rfl⟩
  · exact ⟨rfl, rfl⟩
  · exact ⟨rfl, rfl⟩
  · rw [(contactClosed_spec a c.id).1]; exact ⟨rfl, rfl⟩

theorem shutdownOne_sub (a : Agent) (c : Contact) : Sub a (shutdownOne a c).1 := by
  rcases shutdownOne_cases a c with ⟨-, h⟩ | ⟨_, -, -, ⟨-, h⟩ | ⟨-, -, h⟩ | ⟨-, -, h⟩⟩ <;> rw [h]
  · exact Sub.refl a
  · exact Sub.refl a
  · refine sub_map a _ fun x => ?_
    split
    · exact ⟨rfl, rfl, fun _ => rfl⟩
    · exact ⟨rfl, rfl, id⟩
  · rw [(contactClosed_spec a c.id).1]; exact sub_filter a _

theorem shutdownOne_done (a : Agent) (c : Contact) (hnd : (ids a).Nodup) :
    ∀ x ∈ (shutdownOne a c).1.handlers, x.id = c.id → x.inTerm = true := by
  rcases shutdownOne_cases a c with ⟨hno, h⟩ | ⟨cur, hcur, hid, ⟨ht, h⟩ | ⟨-, -, h⟩ | ⟨-, -, h⟩⟩ <;> rw [h] <;>
    intro x hx hx'
  · exact absurd hx' (hno x hx)
  · -- by distinct ids `x` is `cur`
    rw [nodup_map_inj (fun z : Contact => z.id) a.handlers hnd x cur hx hcur (hx'.trans hid.symm)]; exact ht
  · obtain ⟨y, -, rfl⟩ := List.mem_map.mp hx
    by_cases hy : (y.id == c.id) = true
    · rw [if_pos hy]
    · rw [if_neg hy] at hx'; exact absurd (beq_iff_eq.mpr hx') hy
  · rw [contactClosed_handlers] at hx
    simpa [hx'] using (List.mem_filter.mp hx).2

theorem shutdownOne_closed (a : Agent) (c : Contact) (x : Nat) (h : AOut.closed x ∈ (shutdownOne a c).2) :
    ∃ y ∈ a.handlers, y.id = x ∧ y.inSess = false := by
  rcases shutdownOne_cases a c with ⟨-, e⟩ | ⟨cur, hcur, hid, ⟨-, e⟩ | ⟨-, -, e⟩ | ⟨hs, -, e⟩⟩ <;> rw [e] at h
  · cases h
  · cases h
  · cases List.mem_singleton.mp h
  · rcases ((contactClosed_spec a c.id).2 _ h).2 with e | ⟨e, -⟩
    · exact ⟨cur, hcur, hid.trans (AOut.closed.inj e).symm, hs⟩
    · cases e

theorem shutdownOne_stopped (a : Agent) (c : Contact) (h : AOut.stopped ∈ (shutdownOne a c).2) :
    (shutdownOne a c).1.handlers = [] := by
  rcases shutdownOne_cases a c with ⟨-, e⟩ | ⟨_, -, -, ⟨-, e⟩ | ⟨-, -, e⟩ | ⟨-, -, e⟩⟩ <;> rw [e] at h ⊢
  · cases h
  · cases h
  · cases List.mem_singleton.mp h
  · exact (contactClosed_stopped a c.id h).1

theorem shutdownLoop_rel {Q : List Contact → Agent → List AOut → Agent → Prop} (h0 : ∀ a, Q [] a [] a)
    (h1 : ∀ a c cs o b, Q cs (shutdownOne a c).1 o b → Q (c :: cs) a ((shutdownOne a c).2 ++ o) b)
    (cs : List Contact) : ∀ a, Q cs a (shutdownLoop a cs).2 (shutdownLoop a cs).1 := by
  induction cs with
  | nil => exact h0
  | cons c cs ih => intro a; exact h1 a c cs _ _ (ih _)

theorem shutdownLoop_term (cs : List Contact) (a : Agent) :
    Sub a (shutdownLoop a cs).1
    ∧ ((ids a).Nodup → ∀ x ∈ (shutdownLoop a cs).1.handlers, x.id ∈ cs.map (·.id) → x.inTerm = true) := by
  refine shutdownLoop_rel (Q := fun cs a _ b => Sub a b ∧ ((ids a).Nodup → ∀ x ∈ b.handlers, x.id ∈ cs.map (·.id) → x.inTerm = true))
    (fun a => ⟨Sub.refl a, fun _ _ _ h => nomatch h⟩) (fun a c cs _ b ⟨hs, hq⟩ => ?_) cs a
  have h1 := shutdownOne_sub a c
  refine ⟨h1.trans hs, fun hnd x hx hm => ?_⟩
  rcases List.mem_cons.mp hm with he | hm
  · -- `c` has had its turn, and later iterations keep what is terminating
    obtain ⟨y, hy, e1, -, e3⟩ := hs.2 x hx
    exact e3 (shutdownOne_done a c hnd y hy (e1.trans he))
  · exact hq (h1.nodup hnd) x hx hm

theorem shutdown_cases (a : Agent) :
    (a.handlers = [] ∧ shutdown a = ({ a with inShutdown := true }, [.stopped, .ret true]))
    ∨ ∃ r, r = shutdownLoop { a with inShutdown := true } a.handlers
        ∧ shutdown a = (r.1, r.2 ++ [.ret r.1.handlers.isEmpty]) := by
  unfold shutdown
  simp only []
  split
  · rename_i he
    rw [List.isEmpty_iff] at he
    exact .inl ⟨he, by simp only [stop, he, List.map_nil, closeAll, List.nil_append, List.cons_append]⟩
  · exact .inr ⟨_, rfl, rfl⟩

theorem shutdown_all_terminating (a : Agent) (hnd : (ids a).Nodup) :
    ∀ x ∈ (shutdown a).1.handlers, x.inTerm = true := by
  intro x hx
  rcases shutdown_cases a with ⟨he, h⟩ | ⟨_, rfl, h⟩ <;> rw [h] at hx
  · exact nomatch he ▸ hx
  · obtain ⟨hs, ht⟩ := shutdownLoop_term a.handlers { a with inShutdown := true }
    obtain ⟨y, hy, e, -⟩ := hs.2 x hx
    exact ht hnd x hx (List.mem_map.mpr ⟨y, hy, e⟩)

theorem shutdownLoop_closed (cs : List Contact) (a : Agent) (x : Nat) :
    AOut.closed x ∈ (shutdownLoop a cs).2 → ∃ y ∈ a.handlers, y.id = x ∧ y.inSess = false := by
  refine shutdownLoop_rel (Q := fun _ a o _ => AOut.closed x ∈ o → ∃ y ∈ a.handlers, y.id = x ∧ y.inSess = false)
    (fun _ h => nomatch h) (fun a c _ o _ hq h => ?_) cs a
  rcases List.mem_append.mp h with h | h
  · exact shutdownOne_closed a c x h
  · obtain ⟨y, hy, e1, e2⟩ := hq h
    obtain ⟨z, hz, g1, g2, -⟩ := (shutdownOne_sub a c).2 y hy
    exact ⟨z, hz, g1.trans e1, g2.trans e2⟩

theorem shutdown_closes_only_sessionless (a : Agent) (x : Nat) (h : AOut.closed x ∈ (shutdown a).2) :
    ∃ y ∈ a.handlers, y.id = x ∧ y.inSess = false := by
  rcases shutdown_cases a with ⟨-, e⟩ | ⟨_, rfl, e⟩ <;> rw [e] at h
  · simp only [List.mem_cons, reduceCtorEq, List.not_mem_nil, or_self] at h
  · simp only [List.mem_append, List.mem_singleton, reduceCtorEq, or_false] at h
    exact shutdownLoop_closed a.handlers { a with inShutdown := true } x h

theorem shutdownLoop_stopped (cs : List Contact) (a : Agent) :
    AOut.stopped ∈ (shutdownLoop a cs).2 ∨ a.handlers = [] → (shutdownLoop a cs).1.handlers = [] := by
  refine shutdownLoop_rel (Q := fun _ a o b => AOut.stopped ∈ o ∨ a.handlers = [] → b.handlers = [])
    (fun _ h => h.elim (fun h => nomatch h) id) (fun a c _ o _ hq h => ?_) cs a
  rcases h with h | h
  · rcases List.mem_append.mp h with h | h
    · exact hq (.inr (shutdownOne_stopped a c h))
    · exact hq (.inl h)
  · exact hq (.inr ((shutdownOne_sub a c).nil h))

theorem shutdown_stopped (a : Agent) (h : AOut.stopped ∈ (shutdown a).2) : (shutdown a).1.handlers = [] := by
  rcases shutdown_cases a with ⟨he, e⟩ | ⟨_, rfl, e⟩ <;> rw [e] at h ⊢
  · exact he
  · simp only [List.mem_append, List.mem_singleton, reduceCtorEq, or_false] at h
    exact shutdownLoop_stopped a.handlers _ (.inl h)

theorem shutdown_ret (a : Agent) : AOut.ret ((shutdown a).1.handlers.isEmpty) ∈ (shutdown a).2 := by
  rcases shutdown_cases a with ⟨he, e⟩ | ⟨_, rfl, e⟩ <;> rw [e]
  · simp [he]
  · simp

theorem step_nodup (a : Agent) (op : Op) (h : (ids a).Nodup) : (ids (step a op).1).Nodup := by
  cases op with
  | bind id =>
    simp only [step]
    split
    · exact h
    · rename_i hn
      unfold ids
      simp only [List.map_append, List.map_cons, List.map_nil]
      refine List.nodup_append.mpr ⟨h, by simp, ?_⟩
      intro x hx y hy
      simp only [List.mem_singleton] at hy
      subst hy
      intro he
      apply hn
      simp only [List.any_eq_true, beq_iff_eq]
      obtain ⟨c, hc, hcid⟩ := List.mem_map.mp hx
      exact ⟨c, hc, by rw [hcid, he]⟩
  | establish id | contactTerm id =>
    simp only [step]
    rw [ids_map a _ fun x => ?_]
    · exact h
    · split <;> rfl
  | contactClosed id =>
    simp only [step]; rw [(contactClosed_spec a id).1]; exact (sub_filter a _).nodup h
  | stop =>
    simp only [step]; unfold ids; rw [stop_closes_all]; simp
  | shutdown =>
    simp only [step]
    rcases shutdown_cases a with ⟨-, e⟩ | ⟨_, rfl, e⟩ <;> rw [e]
    · exact h
    · exact (shutdownLoop_term a.handlers _).1.nodup h

theorem run_nodup (ops : List Op) : ∀ (a : Agent), (ids a).Nodup → (ids (run a ops).1).Nodup := by
  induction ops with
  | nil => intro a h; exact h
  | cons op ops ih => intro a h; simp only [run]; exact ih _ (step_nodup a op h)

end TcpclAgent
end DtnVerif
