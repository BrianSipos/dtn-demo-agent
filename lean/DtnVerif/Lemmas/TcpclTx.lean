/-
  The transmit guarantee: what one endpoint emits, against an arbitrary schedule and a peer whose own
  message sequence is legal. The emitted sequence is accepted by the RFC 9174 monitor, and an ideal
  receiver of the emitted sequence reconstructs exactly a prefix of the bundles the user queued.
-/
import DtnVerif.Model.TcpclEp
import DtnVerif.Lemmas.TcpclSpec
import DtnVerif.Lemmas.TcpclCodec
namespace DtnVerif
namespace Tcpcl

structure TxView where
  cfg : Cfg
  closed : Bool
  started : Bool
  sentContact : Bool
  sentInit : Bool
  inSess : Bool
  inTerm : Bool
  sendSegSize : Nat
  kaTime : Nat
  idleTime : Nat
  sendLog : List TxItem
  txNextId : Nat
  nStarted : Nat
  txPendStart : List TxItem
  txTmp : Option (TxItem × Nat)
  emitted : List Msg
  processed : List Msg
  peerInit : Option PeerInit

def Ep.txView (e : Ep) : TxView :=
  ⟨e.cfg, e.closed, e.started, e.sentContact, e.sentInit, e.inSess, e.inTerm, e.sendSegSize, e.kaTime, e.idleTime,
   e.sendLog, e.txNextId, e.nStarted, e.txPendStart, e.txTmp, e.emitted,
   e.processed, e.peerInit⟩

def segLen : Msg → Nat
  | .xferSegment _ _ _ d => d.length
  | _ => 0

def phaseOf (v : TxView) : Nat := if v.sentInit then 2 else if v.sentContact then 1 else 0

def curL (v : TxView) : Option (Nat × Nat × Nat) := v.txTmp.map (fun p => (p.1.tid, p.1.data.length, p.2))
def curD (v : TxView) : Option (Nat × Bytes) := v.txTmp.map (fun p => (p.1.tid, p.1.data.take p.2))
def doneD (v : TxView) : List (Nat × Bytes) :=
  (v.sendLog.take (v.nStarted - (if v.txTmp.isSome then 1 else 0))).map (fun it => (it.tid, it.data))

def MruP (pi : Option PeerInit) (inSess : Bool) (seg : Nat) (em : List Msg) : Prop :=
  (∀ p, pi = some p → 0 < p.segMru ∧ seg ≤ p.segMru ∧ ∀ m ∈ em, segLen m ≤ p.segMru)
  ∧ (pi = none → inSess = false ∧ ∀ m ∈ em, segLen m = 0)
  ∧ (inSess = false → pi = none)

theorem MruP.emit {pi : Option PeerInit} {s : Bool} {g : Nat} {em : List Msg} (h : MruP pi s g em) (m : Msg)
    (h1 : ∀ p, pi = some p → segLen m ≤ p.segMru) (h0 : pi = none → segLen m = 0) :
    MruP pi s g (em ++ [m]) := by
  refine ⟨fun p hp => ?_, fun hn => ?_, h.2.2⟩
  · obtain ⟨a, b, c⟩ := h.1 p hp
    exact ⟨a, b, List.forall_mem_append.mpr ⟨c, List.forall_mem_singleton.mpr (h1 p hp)⟩⟩
  · obtain ⟨a, c⟩ := h.2.1 hn
    exact ⟨a, List.forall_mem_append.mpr ⟨c, List.forall_mem_singleton.mpr (h0 hn)⟩⟩

theorem MruP.emit0 {pi : Option PeerInit} {s : Bool} {g : Nat} {em : List Msg} (h : MruP pi s g em) (m : Msg)
    (hz : segLen m = 0) : MruP pi s g (em ++ [m]) :=
  h.emit m (fun p _ => by rw [hz]; exact Nat.zero_le _) (fun _ => hz)

structure TxInvV (v : TxView) (P : LState) : Prop where
  hP : legalRun {} v.processed = some P
  started : v.started = true
  segInitPos : 0 < v.cfg.segInit
  noPriv : v.cfg.privExt = false
  phaseC : v.sentContact = (if v.cfg.passive then decide (1 ≤ P.phase) else true)
  phaseI : v.sentInit = (if v.cfg.passive then decide (P.phase = 2) else decide (1 ≤ P.phase))
  pPhase : P.phase ≤ 2
  sess : v.inSess = decide (P.phase = 2)
  term : v.inTerm = true → v.inSess = true
  seg : v.inSess = true → 0 < v.sendSegSize
  kaT : 0 < v.kaTime → v.inSess = true
  idT : 0 < v.idleTime → v.inSess = true
  tids : ∀ n it, v.sendLog[n]? = some it → it.tid = n + 1
  nextId : v.txNextId = v.sendLog.length + 1
  lens : ∀ it ∈ v.sendLog, it.data.length < 2 ^ 64
  pend : ∃ i, v.nStarted ≤ i ∧ i ≤ v.sendLog.length ∧ v.txPendStart = v.sendLog.drop i ∧
    (v.inTerm = false → v.closed = false → i = v.nStarted)
  tmp : ∀ it sent, v.txTmp = some (it, sent) →
      1 ≤ v.nStarted ∧ v.sendLog[v.nStarted - 1]? = some it ∧ 0 < sent ∧ sent < it.data.length ∧ v.inSess = true
  nle : v.nStarted ≤ v.sendLog.length
  L : legalRun {} v.emitted = some ⟨phaseOf v, v.inTerm, curL v, v.nStarted⟩
  D : rxSpec v.emitted = ⟨v.sentInit, curD v, doneD v⟩
  mru : MruP v.peerInit v.inSess v.sendSegSize v.emitted

def TxInv (e : Ep) (P : LState) : Prop := TxInvV e.txView P

def emitV (v : TxView) (m : Msg) : TxView := { v with emitted := v.emitted ++ [m] }

theorem txView_sendMessage (e : Ep) (m : Msg) : (sendMessage e m).txView = emitV e.txView m := rfl

theorem txInv_of_view {e e' : Ep} {P : LState} (h : e'.txView = e.txView) (hi : TxInv e P) : TxInv e' P := by
  unfold TxInv at *; rw [h]; exact hi

theorem legalRun_append (s : LState) (a b : List Msg) :
    legalRun s (a ++ b) = (legalRun s a).bind (fun s' => legalRun s' b) := by
  induction a generalizing s with
  | nil => rfl
  | cons m ms ih =>
    simp only [List.cons_append, legalRun]
    cases legalStep s m with
    | none => rfl
    | some s' => exact ih s'

theorem legalRun_cons_some {s s' : LState} {m : Msg} {ms : List Msg} (h : legalRun s (m :: ms) = some s') :
    ∃ s1, legalStep s m = some s1 ∧ legalRun s1 ms = some s' := by
  simp only [legalRun] at h
  cases hs : legalStep s m with
  | none => rw [hs] at h; simp at h
  | some s1 => rw [hs] at h; exact ⟨s1, rfl, h⟩

theorem legalRun_snoc (s s' : LState) (a : List Msg) (m : Msg) (h : legalRun s a = some s') :
    legalRun s (a ++ [m]) = legalStep s' m := by
  rw [legalRun_append, h]
  simp only [Option.bind, legalRun]
  cases legalStep s' m <;> rfl

theorem legalRun_prefix (s : LState) (a b : List Msg) (h : (legalRun s (a ++ b)).isSome) :
    (legalRun s a).isSome := by
  rw [legalRun_append] at h
  cases hl : legalRun s a with
  | none => rw [hl] at h; simp at h
  | some _ => rfl

theorem legal_of_prefix {a b : List Msg} (hp : a <+: b) (hb : (legalRun {} b).isSome) :
    (legalRun {} a).isSome := by
  obtain ⟨t, rfl⟩ := hp
  exact legalRun_prefix _ _ _ hb

theorem legalStep_inv {s s1 : LState} {m : Msg} (h : legalStep s m = some s1) :
    match m with
    | .contact _ => s.phase = 0 ∧ s1 = { s with phase := 1 }
    | .sessInit .. => s.phase = 1 ∧ s1 = { s with phase := 2 }
    | .sessTerm .. => s.phase = 2 ∧ s.termSeen = false ∧ s1 = { s with termSeen := true }
    | .xferSegment f t x d => s.phase = 2 ∧ s1.phase = 2 ∧ s1.termSeen = s.termSeen ∧
        if hasStart f then
          s.termSeen = false ∧ s.cur = none ∧ s.lastTid < t ∧ s1.lastTid = t ∧ ∃ total, totalLengthOf x = some total ∧
            if hasEnd f then d.length = total ∧ s1.cur = none else d.length < total ∧ s1.cur = some (t, total, d.length)
        else
          x = [] ∧ s1.lastTid = s.lastTid ∧ ∃ total sofar, s.cur = some (t, total, sofar) ∧
            if hasEnd f then sofar + d.length = total ∧ s1.cur = none
            else sofar + d.length < total ∧ s1.cur = some (t, total, sofar + d.length)
    | _ => s.phase = 2 ∧ s1 = s := by
  -- `legalStep` is a chain of guards `if c then none else …` / `if c then some s' else none`:
  -- it returns `some s1` iff every guard passes and `s1` is the state at the end
  cases m with
  | xferSegment f t x d =>
    simp only [legalStep, Option.ite_none_left_eq_some, bne_iff_ne, ne_eq, Decidable.not_not] at h
    obtain ⟨hph, g⟩ := h
    refine ⟨hph, ?_⟩
    split at g
    · rename_i hst
      simp only [Option.ite_none_left_eq_some, Bool.or_eq_true, not_or, decide_eq_true_eq, Nat.not_le, Bool.not_eq_true,
        Option.isSome_eq_false_iff, Option.isNone_iff_eq_none] at g
      obtain ⟨⟨⟨htm, hcur⟩, hlt⟩, g⟩ := g
      rw [if_pos hst]
      split at g
      · cases g
      · rename_i total htl
        split at g
        · rename_i he
          simp only [Option.ite_none_right_eq_some, Option.some.injEq, beq_iff_eq] at g
          obtain ⟨hlen, rfl⟩ := g
          exact ⟨hph, rfl, htm, hcur, hlt, rfl, total, htl, by rw [if_pos he]; exact ⟨hlen, hcur⟩⟩
        · rename_i he
          simp only [Option.ite_none_right_eq_some, Option.some.injEq] at g
          obtain ⟨hlen, rfl⟩ := g
          exact ⟨hph, rfl, htm, hcur, hlt, rfl, total, htl, by rw [if_neg he]; exact ⟨hlen, rfl⟩⟩
    · rename_i hst
      simp only [Option.ite_none_left_eq_some, Decidable.not_not] at g
      obtain ⟨hx, g⟩ := g
      rw [if_neg hst]
      split at g
      · cases g
      · rename_i t0 total sofar hc
        simp only [Option.ite_none_left_eq_some, Decidable.not_not] at g
        obtain ⟨rfl, g⟩ := g
        split at g
        · rename_i he
          simp only [Option.ite_none_right_eq_some, Option.some.injEq, beq_iff_eq] at g
          obtain ⟨hlen, rfl⟩ := g
          exact ⟨hph, rfl, hx, rfl, total, sofar, hc, by rw [if_pos he]; exact ⟨hlen, rfl⟩⟩
        · rename_i he
          simp only [Option.ite_none_right_eq_some, Option.some.injEq] at g
          obtain ⟨hlen, rfl⟩ := g
          exact ⟨hph, rfl, hx, rfl, total, sofar, hc, by rw [if_neg he]; exact ⟨hlen, rfl⟩⟩
  | sessTerm a b =>
    simp only [legalStep, Option.ite_none_right_eq_some, Option.some.injEq, Bool.and_eq_true, beq_iff_eq, Bool.not_eq_true'] at h
    exact ⟨h.1.1, h.1.2, h.2.symm⟩
  | _ =>
    simp only [legalStep, Option.ite_none_right_eq_some, Option.some.injEq, beq_iff_eq] at h
    exact ⟨h.1, h.2.symm⟩

theorem legalStep_nonstart_cur (P P' : LState) (f t : Nat) (x d : Bytes)
    (h : legalStep P (.xferSegment f t x d) = some P') (hst : hasStart f = false) :
    ∃ tot so, P.cur = some (t, tot, so) := by
  obtain ⟨-, -, -, h⟩ := legalStep_inv h
  simp only [hst, Bool.false_eq_true, if_false] at h
  obtain ⟨-, -, tot, so, hc, -⟩ := h
  exact ⟨tot, so, hc⟩

/-- messages that neither the monitor (in phase 2) nor the ideal receiver reacts to -/
def Msg.inert : Msg → Bool
  | .xferAck .. | .xferRefuse .. | .keepalive | .msgReject .. => true
  | _ => false

theorem legalStep_inert (s : LState) (m : Msg) (hm : m.inert = true) (hp : s.phase = 2) :
    legalStep s m = some s := by
  cases m <;> simp [Msg.inert] at hm <;> simp [legalStep, hp]

theorem rxSpecStep_inert (s : RxSpec) (m : Msg) (hm : m.inert = true) : rxSpecStep s m = s := by
  cases m <;> simp [Msg.inert] at hm <;> rfl

theorem phaseOf_two {v : TxView} (h : v.sentInit = true) : phaseOf v = 2 := by simp [phaseOf, h]

theorem TxInvV.sentInit_of_sess {v : TxView} {P : LState} (hi : TxInvV v P) (hs : v.inSess = true) :
    v.sentInit = true := by
  have h2 : P.phase = 2 := by simpa [hi.sess] using hs
  rw [hi.phaseI]; split <;> simp [h2]

/-- One more emitted message: the monitor and the ideal receiver each take one step from the state the invariant
    records for them. -/
theorem TxInvV.emit {v : TxView} {P : LState} (hi : TxInvV v P) (m : Msg) :
    legalRun {} (v.emitted ++ [m]) = legalStep ⟨phaseOf v, v.inTerm, curL v, v.nStarted⟩ m
    ∧ rxSpec (v.emitted ++ [m]) = rxSpecStep ⟨v.sentInit, curD v, doneD v⟩ m :=
  ⟨legalRun_snoc _ _ _ _ hi.L, by rw [rxSpec_snoc, hi.D]⟩

theorem txInvV_emit_inert (v : TxView) (P : LState) (m : Msg) (hi : TxInvV v P)
    (hm : m.inert = true) (hs : v.inSess = true) :
    TxInvV (emitV v m) P := by
  have hsi := hi.sentInit_of_sess hs
  unfold emitV
  exact { hi with
    L := (hi.emit m).1.trans (legalStep_inert _ _ hm (phaseOf_two hsi))
    D := (hi.emit m).2.trans (rxSpecStep_inert _ _ hm)
    mru := hi.mru.emit0 m (by cases m <;> simp [Msg.inert] at hm <;> rfl) }

theorem txInvV_processed_samePhase (v : TxView) (P P' : LState) (m : Msg) (hi : TxInvV v P)
    (hstep : legalStep P m = some P') (hph : P'.phase = P.phase) :
    TxInvV { v with processed := v.processed ++ [m] } P' := by
  refine { hi with hP := ?_, phaseC := ?_, phaseI := ?_, pPhase := ?_, sess := ?_ }
  · show legalRun {} (v.processed ++ [m]) = some P'
    rw [legalRun_snoc _ _ _ _ hi.hP]; exact hstep
  · rw [hph]; exact hi.phaseC
  · rw [hph]; exact hi.phaseI
  · rw [hph]; exact hi.pPhase
  · rw [hph]; exact hi.sess

theorem legalStep_body_phase (P P' : LState) (m : Msg) (h : legalStep P m = some P')
    (hb : match m with | .contact _ => False | .sessInit .. => False | _ => True) :
    P.phase = 2 ∧ P'.phase = 2 := by
  have hi := legalStep_inv h
  cases m with
  | contact f => exact hb.elim
  | sessInit ka sm xm n x => exact hb.elim
  | sessTerm f r => obtain ⟨hp, -, rfl⟩ := hi; exact ⟨hp, hp⟩
  | keepalive | msgReject _ _ | xferAck _ _ _ | xferRefuse _ _ => obtain ⟨hp, rfl⟩ := hi; exact ⟨hp, hp⟩
  | xferSegment flags tid ext data => exact ⟨hi.1, hi.2.1⟩

/-- the pending queue emptied (`flushPendStart`): allowed once the endpoint terminates or is closed -/
theorem TxInvV.pend_nil {v : TxView} {P : LState} (hi : TxInvV v P) (t c : Bool) (h : t = true ∨ c = true) :
    ∃ i, v.nStarted ≤ i ∧ i ≤ v.sendLog.length ∧ [] = v.sendLog.drop i ∧ (t = false → c = false → i = v.nStarted) := by
  refine ⟨v.sendLog.length, hi.nle, Nat.le_refl _, List.drop_length.symm, fun h1 h2 => ?_⟩
  rw [h1, h2] at h
  exact h.elim nofun nofun

theorem txInvV_flush (v : TxView) (P : LState) (hi : TxInvV v P) (ht : v.inTerm = true ∨ v.closed = true) :
    TxInvV { v with txPendStart := [] } P :=
  { hi with pend := hi.pend_nil v.inTerm v.closed ht }

theorem txInvV_close (v : TxView) (P : LState) (hi : TxInvV v P) :
    TxInvV { v with txPendStart := [], closed := true } P :=
  { hi with pend := hi.pend_nil v.inTerm true (.inr rfl) }

theorem txInvV_sessTerm (v : TxView) (P : LState) (f r : Nat) (hi : TxInvV v P)
    (hs : v.inSess = true) (ht : v.inTerm = false) :
    TxInvV { v with inTerm := true, emitted := v.emitted ++ [.sessTerm f r], txPendStart := [] } P := by
  have hsi := hi.sentInit_of_sess hs
  refine { hi with term := fun _ => hs, pend := hi.pend_nil true v.closed (.inl rfl), L := (hi.emit _).1.trans ?_,
                   D := (hi.emit _).2, mru := hi.mru.emit0 _ rfl }
  simp [legalStep, ht, phaseOf, hsi, curL]

theorem txInvV_send (v : TxView) (P : LState) (d : Bytes) (hi : TxInvV v P) (hd : d.length < 2 ^ 64) :
    TxInvV { v with txNextId := v.txNextId + 1, txPendStart := v.txPendStart ++ [⟨v.txNextId, d⟩],
                    sendLog := v.sendLog ++ [⟨v.txNextId, d⟩] } P := by
  obtain ⟨i, hi1, hile, hi2, hi3⟩ := hi.pend
  refine { hi with tids := ?_, nextId := ?_, lens := ?_, pend := ?_, tmp := ?_, nle := ?_, D := ?_ }
  · intro n it hn
    rcases Nat.lt_trichotomy n v.sendLog.length with hlt | rfl | hgt
    · rw [List.getElem?_append_left hlt] at hn; exact hi.tids n it hn
    · rw [List.getElem?_concat_length] at hn; cases hn; exact hi.nextId
    · rw [List.getElem?_eq_none (by simp only [List.length_append, List.length_singleton]; omega)] at hn; cases hn
  · simp [hi.nextId]
  · intro it hit
    rcases List.mem_append.mp hit with h | h
    · exact hi.lens it h
    · simp at h; subst h; exact hd
  · refine ⟨i, hi1, by simp; omega, ?_, hi3⟩
    show v.txPendStart ++ [_] = (v.sendLog ++ [_]).drop i
    rw [List.drop_append_of_le_length hile, hi2]
  · intro it sent h
    obtain ⟨a, b, c, d', e'⟩ := hi.tmp it sent h
    refine ⟨a, ?_, c, d', e'⟩
    show (v.sendLog ++ [_])[v.nStarted - 1]? = some it
    rw [List.getElem?_append_left (by have := hi.nle; omega)]; exact b
  · show v.nStarted ≤ (v.sendLog ++ [_]).length
    simp; have := hi.nle; omega
  · show rxSpec v.emitted = ⟨v.sentInit, curD _, doneD _⟩
    rw [hi.D]
    simp only [curD, doneD]
    congr 1
    rw [List.take_append_of_le_length (by have := hi.nle; omega)]

theorem hasStart_flags (a b : Bool) :
    hasStart ((if a then flagEnd else 0) + (if b then flagStart else 0)) = b := by
  cases a <;> cases b <;> decide

theorem hasEnd_flags (a b : Bool) :
    hasEnd ((if a then flagEnd else 0) + (if b then flagStart else 0)) = a := by
  cases a <;> cases b <;> decide

theorem totalLengthOf_enc (n : Nat) (hn : n < 2 ^ 64) :
    totalLengthOf (encExtItem ⟨0, 1, u64 n⟩) = some n := by
  have h := decExtItems_enc [⟨0, 1, u64 n⟩] (by
    intro e he; simp at he; subst he; simp [u64]) ((encExtItem ⟨0, 1, u64 n⟩).length + 1) (by simp)
  simp only [encExtItems, List.append_nil] at h
  unfold totalLengthOf
  rw [h]
  simp [u64, beNat_beBytes 8 n (by simpa using hn)]

/-- the monitor on a segment as `sendSegment` builds it: flags from the two booleans, the Transfer Length item on START -/
theorem legalStep_ownSeg (ph : Nat) (tm s e : Bool) (last t total sofar : Nat) (d : Bytes) (hph : ph = 2)
    (hs : s = true → tm = false ∧ last < t ∧ sofar = 0) (ht : total < 2 ^ 64)
    (he : e = (sofar + d.length == total)) (hle : sofar + d.length ≤ total) :
    legalStep ⟨ph, tm, if s then none else some (t, total, sofar), last⟩
      (.xferSegment ((if e then flagEnd else 0) + (if s then flagStart else 0)) t
        (if s then encExtItem ⟨0, 1, u64 total⟩ else []) d)
    = some ⟨ph, tm, if e then none else some (t, total, sofar + d.length), if s then t else last⟩ := by
  subst hph
  simp only [legalStep, hasStart_flags, hasEnd_flags]
  cases s
  · cases e
    · have : sofar + d.length ≠ total := by simpa using he.symm
      simp; omega
    · have : sofar + d.length = total := by simpa using he.symm
      simp [this]
  · obtain ⟨rfl, hl, rfl⟩ := hs rfl
    cases e
    · have : 0 + d.length ≠ total := by simpa using he.symm
      simp [totalLengthOf_enc _ ht]; omega
    · have : 0 + d.length = total := by simpa using he.symm
      simp [totalLengthOf_enc _ ht]; omega

/-- the same segment at the ideal receiver; `done'` is the list of completed transfers if this segment ends one -/
theorem rxSpecStep_ownSeg (ss s e : Bool) (t : Nat) (x d pre : Bytes) (done done' : List (Nat × Bytes)) (hss : ss = true)
    (hs : s = true → pre = []) (hd : e = true → done ++ [(t, pre ++ d)] = done') :
    rxSpecStep ⟨ss, if s then none else some (t, pre), done⟩
      (.xferSegment ((if e then flagEnd else 0) + (if s then flagStart else 0)) t x d)
    = ⟨ss, if e then none else some (t, pre ++ d), if e then done' else done⟩ := by
  subst hss
  simp only [rxSpecStep, hasStart_flags, hasEnd_flags]
  cases s
  · cases e
    · simp
    · cases hd rfl; simp
  · cases hs rfl
    cases e
    · simp
    · cases hd rfl; simp

/-- the view after `sendSegment` (no private extensions) -/
def segV (v : TxView) (it : TxItem) (sent : Nat) : TxView :=
  let seg := (it.data.drop sent).take v.sendSegSize
  let sent' := sent + seg.length
  let isStart := sent == 0
  let isEnd := sent' == it.data.length
  { v with
    emitted := v.emitted ++ [.xferSegment ((if isEnd then flagEnd else 0) + (if isStart then flagStart else 0)) it.tid
      (if isStart then encExtItem ⟨0, 1, u64 it.data.length⟩ else []) seg],
    txTmp := if isEnd then none else some (it, sent') }

@[simp] theorem txView_pqTrigger (e : Ep) : (pqTrigger e).txView = e.txView := by
  unfold pqTrigger; split <;> rfl

theorem view_sendSegment_tx (e : Ep) (it : TxItem) (sent : Nat) (hp : e.cfg.privExt = false) :
    (sendSegment e it sent).1.txView = segV e.txView it sent := by
  unfold sendSegment segV
  simp only [hp, Bool.and_false, Bool.false_eq_true, if_false, transferExt, List.nil_append]
  split
  · rw [txView_pqTrigger]
    simp only [Ep.txView, sendMessage, sendReady, kaReset, idleReset]
    split <;> simp_all
  · simp only [Ep.txView, sendMessage, sendReady, kaReset, idleReset]
    split <;> simp_all

theorem take_self_length {α} (l : List α) (k : Nat) : l.take (l.take k).length = l.take k := by
  rw [List.length_take]
  by_cases h : k ≤ l.length
  · rw [Nat.min_eq_left h]
  · rw [Nat.min_eq_right (by omega), List.take_length, List.take_of_length_le (by omega)]

theorem take_add_seg {α} (l : List α) (a k : Nat) :
    l.take (a + ((l.drop a).take k).length) = l.take a ++ (l.drop a).take k := by
  rw [List.take_add, take_self_length]

theorem MruP.seg {pi : Option PeerInit} {g : Nat} {em : List Msg} (h : MruP pi true g em) (m : Msg)
    (hm : segLen m ≤ g) : MruP pi true g (em ++ [m]) := by
  refine h.emit m ?_ ?_
  · intro p hp; exact Nat.le_trans hm (h.1 p hp).2.1
  · intro hn; have := (h.2.1 hn).1; exact absurd this (by simp)

theorem TxInvV.mru_seg {v : TxView} {P : LState} (hi : TxInvV v P) (hs : v.inSess = true) (f t : Nat) (x l : Bytes) :
    MruP v.peerInit v.inSess v.sendSegSize (v.emitted ++ [.xferSegment f t x (l.take v.sendSegSize)]) := by
  have h := hi.mru
  rw [hs] at h ⊢
  exact h.seg _ (by simp only [segLen]; rw [List.length_take]; exact Nat.min_le_left _ _)

theorem curL_segV (u : TxView) (it : TxItem) (sent : Nat) :
    curL (segV u it sent) =
      if sent + ((it.data.drop sent).take u.sendSegSize).length == it.data.length then none
      else some (it.tid, it.data.length, sent + ((it.data.drop sent).take u.sendSegSize).length) := by
  unfold curL segV; simp only []; split <;> rfl

theorem curD_segV (u : TxView) (it : TxItem) (sent : Nat) :
    curD (segV u it sent) =
      if sent + ((it.data.drop sent).take u.sendSegSize).length == it.data.length then none
      else some (it.tid, it.data.take sent ++ (it.data.drop sent).take u.sendSegSize) := by
  rw [← take_add_seg]; unfold curD segV; simp only []; split <;> rfl

theorem doneD_segV (u : TxView) (it : TxItem) (sent : Nat) :
    doneD (segV u it sent) =
      if sent + ((it.data.drop sent).take u.sendSegSize).length == it.data.length then
        (u.sendLog.take u.nStarted).map fun it => (it.tid, it.data)
      else (u.sendLog.take (u.nStarted - 1)).map fun it => (it.tid, it.data) := by
  unfold doneD segV; simp only []; split <;> rfl

/-- The segment that `sendSegment` emits for `(it, sent)`. `v` is the view before the queue is touched, `ps` and `n`
    are the pending queue and the start counter when the segment goes out: those of `v`, or (`sent = 0`) with `it`
    just taken from the queue. -/
theorem txInvV_seg (v : TxView) (P : LState) (it : TxItem) (sent n : Nat) (ps : List TxItem) (hi : TxInvV v P)
    (hsess : v.inSess = true) (hn1 : 1 ≤ n) (hidx : v.sendLog[n - 1]? = some it) (hslt : sent ≤ it.data.length)
    (hpend : ∃ i, n ≤ i ∧ i ≤ v.sendLog.length ∧ ps = v.sendLog.drop i ∧ (v.inTerm = false → v.closed = false → i = n))
    (hcase : if sent = 0 then v.txTmp = none ∧ n = v.nStarted + 1 ∧ v.inTerm = false
             else v.txTmp = some (it, sent) ∧ n = v.nStarted) :
    TxInvV (segV { v with txPendStart := ps, txTmp := some (it, sent), nStarted := n } it sent) P := by
  have hsi := hi.sentInit_of_sess hsess
  have hseg := hi.seg hsess
  have hnle : n ≤ v.sendLog.length := by
    have := (List.getElem?_eq_some_iff.mp hidx).1; omega
  have htid : it.tid = n := by rw [hi.tids _ _ hidx]; omega
  have hlen := hi.lens it (List.mem_of_getElem? hidx)
  have hsl : ((it.data.drop sent).take v.sendSegSize).length = min v.sendSegSize (it.data.length - sent) := by
    simp [List.length_take, List.length_drop]
  have hle : sent + ((it.data.drop sent).take v.sendSegSize).length ≤ it.data.length := by rw [hsl]; omega
  have hcur : v.txTmp = if sent == 0 then none else some (it, sent) := by
    split at hcase
    · rename_i h; rw [hcase.1, h]; rfl
    · rename_i h; rw [hcase.1, if_neg (by simpa using h)]
  have hL : curL v = if sent == 0 then none else some (it.tid, it.data.length, sent) := by
    rw [curL, hcur]; split <;> rfl
  have hD : curD v = if sent == 0 then none else some (it.tid, it.data.take sent) := by
    rw [curD, hcur]; split <;> rfl
  have hdone : doneD v = (v.sendLog.take (n - 1)).map (fun it => (it.tid, it.data)) := by
    rw [doneD, hcur]
    split at hcase
    · rename_i h; simp [h, hcase.2.1]
    · rename_i h; simp [h, hcase.2]
  refine { hi with mru := hi.mru_seg hsess _ _ _ _, pend := hpend, nle := hnle, tmp := ?_, L := ?_, D := ?_ }
  · intro it' s' h
    have h : (if sent + ((it.data.drop sent).take v.sendSegSize).length == it.data.length then none
        else some (it, sent + ((it.data.drop sent).take v.sendSegSize).length)) = some (it', s') := h
    split at h
    · cases h
    · rename_i hne
      cases h
      -- not the last segment: it is a full one
      have hne : sent + min v.sendSegSize (it.data.length - sent) ≠ it.data.length := by rw [← hsl]; simpa using hne
      exact ⟨hn1, hidx, by rw [hsl]; omega, by rw [hsl]; omega, hsess⟩
  · refine (hi.emit _).1.trans ?_
    rw [hL]
    refine (legalStep_ownSeg _ v.inTerm (sent == 0) _ v.nStarted it.tid it.data.length sent _ (phaseOf_two hsi) ?_ hlen rfl hle).trans ?_
    · intro h
      have h : sent = 0 := by simpa using h
      rw [if_pos h] at hcase
      exact ⟨hcase.2.2, by omega, h⟩
    · have hl : (if (sent == 0) = true then it.tid else v.nStarted) = n := by
        split
        · exact htid
        · rename_i h; rw [if_neg (by simpa using h)] at hcase; exact hcase.2.symm
      rw [hl, curL_segV]; rfl
  · refine (hi.emit _).2.trans ?_
    rw [hD, hdone]
    refine (rxSpecStep_ownSeg _ (sent == 0) _ it.tid _ _ _ _ ((v.sendLog.take n).map fun it => (it.tid, it.data)) hsi
      ?_ ?_).trans ?_
    · intro h; rw [show sent = 0 by simpa using h]; rfl
    · intro he
      have he : sent + ((it.data.drop sent).take v.sendSegSize).length = it.data.length := by simpa using he
      rw [← take_add_seg, he, List.take_length]
      have : n = (n - 1) + 1 := by omega
      rw [this, List.take_add_one, hidx]
      simp
    · rw [curD_segV, doneD_segV]; rfl

theorem txInvV_seg_cont (v : TxView) (P : LState) (it : TxItem) (sent : Nat) (hi : TxInvV v P)
    (ht : v.txTmp = some (it, sent)) : TxInvV (segV v it sent) P := by
  obtain ⟨hn1, hidx, hs0, hslt, hsess⟩ := hi.tmp it sent ht
  have h := txInvV_seg v P it sent v.nStarted v.txPendStart hi hsess hn1 hidx (Nat.le_of_lt hslt) hi.pend
    (by rw [if_neg (by omega)]; exact ⟨ht, rfl⟩)
  rw [← ht] at h
  exact h

theorem txInvV_seg_start (v : TxView) (P : LState) (it : TxItem) (rest : List TxItem) (hi : TxInvV v P)
    (ht : v.txTmp = none) (hsess : v.inSess = true) (hterm : v.inTerm = false) (hcl : v.closed = false)
    (hq : v.txPendStart = it :: rest) :
    TxInvV (segV { v with txPendStart := rest, txTmp := some (it, 0), nStarted := v.nStarted + 1 } it 0) P := by
  obtain ⟨i, hi1, hile, hi2, hi3⟩ := hi.pend
  have hieq : i = v.nStarted := hi3 hterm hcl
  subst hieq
  have hdrop : v.sendLog.drop v.nStarted = it :: rest := by rw [← hi2]; exact hq
  have hidx : v.sendLog[v.nStarted]? = some it := by rw [← List.head?_drop, hdrop]; rfl
  have hlt : v.nStarted < v.sendLog.length := (List.getElem?_eq_some_iff.mp hidx).1
  have hrest : rest = v.sendLog.drop (v.nStarted + 1) := by rw [← List.tail_drop, hdrop]; rfl
  exact txInvV_seg v P it 0 (v.nStarted + 1) rest hi hsess (Nat.le_add_left 1 _) hidx (Nat.zero_le _)
    ⟨v.nStarted + 1, Nat.le_refl _, hlt, hrest, fun _ _ => rfl⟩ (by rw [if_pos rfl]; exact ⟨ht, rfl, hterm⟩)

/-- The peer's contact header has been processed and the endpoint's next header is out: its own contact header on
    the passive side, SESS_INIT on the active side. `sc`, `si`, `em` are the two flags and the emitted stream
    afterwards. -/
theorem txInvV_greeted (v : TxView) (P : LState) (f : Nat) (sc si : Bool) (em : List Msg) (hi : TxInvV v P)
    (hp0 : P.phase = 0) (hsc : sc = true) (hsi : si = !v.cfg.passive)
    (hL : legalRun {} em = some ⟨if si then 2 else 1, v.inTerm, curL v, v.nStarted⟩)
    (hD : rxSpec em = ⟨si, curD v, doneD v⟩) (hm : MruP v.peerInit v.inSess v.sendSegSize em) :
    TxInvV { v with processed := v.processed ++ [.contact f], sentContact := sc, sentInit := si, emitted := em }
      { P with phase := 1 } := by
  subst hsc hsi
  refine { hi with mru := hm, hP := ?_, phaseC := ?_, phaseI := ?_, pPhase := Nat.le_succ 1, sess := ?_, L := hL, D := hD }
  · show legalRun {} (v.processed ++ [.contact f]) = _
    rw [legalRun_snoc _ _ _ _ hi.hP]
    simp [legalStep, hp0]
  · simp
  · cases v.cfg.passive <;> rfl
  · simp [hi.sess, hp0]

theorem txInvV_contact (v : TxView) (P P' : LState) (f : Nat) (m0 m1 : Msg)
    (hm0 : m0 = .contact 0) (hm1 : ∃ a b c d x, m1 = .sessInit a b c d x)
    (hi : TxInvV v P) (hstep : legalStep P (.contact f) = some P') :
    TxInvV (if v.cfg.passive then
              { v with processed := v.processed ++ [.contact f], sentContact := true, emitted := v.emitted ++ [m0] }
            else
              { v with processed := v.processed ++ [.contact f], sentInit := true, emitted := v.emitted ++ [m1] }) P' := by
  obtain ⟨hp0, rfl⟩ := legalStep_inv hstep
  cases hpas : v.cfg.passive with
  | true =>
    have hsc : v.sentContact = false := by simp [hi.phaseC, hpas, hp0]
    have hsi : v.sentInit = false := by simp [hi.phaseI, hpas, hp0]
    subst hm0
    refine txInvV_greeted v P f true v.sentInit _ hi hp0 rfl (by rw [hsi, hpas]; rfl) ((hi.emit _).1.trans ?_)
      (hi.emit _).2 (hi.mru.emit0 _ rfl)
    simp [legalStep, phaseOf, hsc, hsi]
  | false =>
    have hsc : v.sentContact = true := by simp [hi.phaseC, hpas]
    have hsi : v.sentInit = false := by simp [hi.phaseI, hpas, hp0]
    obtain ⟨a, b, c, d, x, rfl⟩ := hm1
    refine txInvV_greeted v P f v.sentContact true _ hi hp0 hsc (by rw [hpas]; rfl) ((hi.emit _).1.trans ?_)
      ((hi.emit _).2.trans (by rw [hsi]; rfl)) (hi.mru.emit0 _ rfl)
    simp [legalStep, phaseOf, hsc, hsi]

/-- SESS_INIT has been processed: the session is established with the negotiated parameters. Both of the
    endpoint's own headers are out by now; `si`, `em` are `sentInit` and the emitted stream afterwards (the passive
    side sends its SESS_INIT in this very transaction, the active side had sent it before). -/
theorem txInvV_established (v : TxView) (P : LState) (ka sm xm : Nat) (node ext : Bytes) (si : Bool) (em : List Msg)
    (hsm : 0 < sm) (hi : TxInvV v P) (hp1 : P.phase = 1) (hsc : v.sentContact = true) (hsi : si = true)
    (hL : legalRun {} em = some ⟨2, v.inTerm, curL v, v.nStarted⟩) (hD : rxSpec em = ⟨true, curD v, doneD v⟩)
    (hem : ∀ m ∈ em, segLen m = 0) :
    TxInvV { v with processed := v.processed ++ [.sessInit ka sm xm node ext], sentInit := si, emitted := em,
                    inSess := true, kaTime := min v.cfg.keepalive ka, idleTime := v.cfg.idle,
                    sendSegSize := min v.cfg.segInit sm, peerInit := some ⟨ka, sm, xm, node⟩ } { P with phase := 2 } := by
  subst hsi
  have hsess : v.inSess = false := by simp [hi.sess, hp1]
  refine { hi with mru := ?_, hP := ?_, phaseC := ?_, phaseI := ?_, pPhase := Nat.le_refl 2, sess := rfl,
                   term := fun _ => rfl, seg := fun _ => ?_, kaT := fun _ => rfl, idT := fun _ => rfl, tmp := ?_,
                   L := hL, D := hD }
  · show legalRun {} (v.processed ++ [.sessInit ka sm xm node ext]) = _
    rw [legalRun_snoc _ _ _ _ hi.hP]
    simp [legalStep, hp1]
  · simp [hsc]
  · simp
  · have := hi.segInitPos
    show 0 < min v.cfg.segInit sm
    omega
  · -- no transfer was open outside a session
    intro it s h
    rw [(hi.tmp it s h).2.2.2.2] at hsess
    cases hsess
  · refine ⟨fun p hp => ?_, nofun, nofun⟩
    cases hp
    exact ⟨hsm, Nat.min_le_right _ _, fun m hm => by rw [hem m hm]; exact Nat.zero_le _⟩

theorem txInvV_sessInit (v : TxView) (P P' : LState) (ka sm xm : Nat) (node ext : Bytes) (m1 : Msg)
    (hm1 : ∃ a b c d x, m1 = .sessInit a b c d x) (hsm : 0 < sm)
    (hi : TxInvV v P) (hstep : legalStep P (.sessInit ka sm xm node ext) = some P') :
    TxInvV (if v.cfg.passive then
              { v with processed := v.processed ++ [.sessInit ka sm xm node ext], sentInit := true,
                       emitted := v.emitted ++ [m1], inSess := true,
                       kaTime := min v.cfg.keepalive ka, idleTime := v.cfg.idle,
                       sendSegSize := min v.cfg.segInit sm, peerInit := some ⟨ka, sm, xm, node⟩ }
            else
              { v with processed := v.processed ++ [.sessInit ka sm xm node ext], inSess := true,
                       kaTime := min v.cfg.keepalive ka, idleTime := v.cfg.idle,
                       sendSegSize := min v.cfg.segInit sm, peerInit := some ⟨ka, sm, xm, node⟩ }) P' := by
  obtain ⟨hp1, rfl⟩ := legalStep_inv hstep
  have hsess : v.inSess = false := by simp [hi.sess, hp1]
  have hnoseg : ∀ m ∈ v.emitted, segLen m = 0 := (hi.mru.2.1 (hi.mru.2.2 hsess)).2
  cases hpas : v.cfg.passive with
  | true =>
    have hsc : v.sentContact = true := by simp [hi.phaseC, hpas, hp1]
    have hsi : v.sentInit = false := by simp [hi.phaseI, hpas, hp1]
    obtain ⟨a, b, c, d, x, rfl⟩ := hm1
    refine txInvV_established v P ka sm xm node ext true _ hsm hi hp1 hsc rfl ((hi.emit _).1.trans ?_)
      ((hi.emit _).2.trans (by rw [hsi]; rfl)) (List.forall_mem_append.mpr ⟨hnoseg, List.forall_mem_singleton.mpr rfl⟩)
    simp [legalStep, phaseOf, hsc, hsi]
  | false =>
    have hsc : v.sentContact = true := by simp [hi.phaseC, hpas]
    have hsi : v.sentInit = true := by simp [hi.phaseI, hpas, hp1]
    exact txInvV_established v P ka sm xm node ext v.sentInit v.emitted hsm hi hp1 hsc hsi
      (by rw [hi.L, phaseOf_two hsi]) (by rw [hi.D, hsi]) hnoseg

end Tcpcl
end DtnVerif
