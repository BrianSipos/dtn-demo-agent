/-
  The two dispatchers of the endpoint model, `step` (by event) and `handleMsg` (by received message), analysed
  once: one case per result, under the guards that lead to it (`step_cases`, `handleMsg_cases`), for proofs that
  go through every event or every message; and `step` on one given event as the call of the model it amounts
  to (`step_closed`, `step_rx`, `step_close` …).
-/
import DtnVerif.Model.TcpclEp
namespace DtnVerif
namespace Tcpcl

/-- `idle` stands for every branch in which nothing happens (a closed endpoint, a repeated `start`, a source or
    timer that is not installed, `modulate` before the peer's SESS_INIT). -/
theorem step_cases (e : Ep) {P : Ev → Res → Prop}
    (idle : ∀ ev, P ev (e, []))
    (advance : ∀ ms, P (.advance ms) ({ e with now := e.now + ms }, []))
    (query : ∀ q, P (.query q) (e, [.ret (queryVal e q)]))
    (pop : ∀ t, P (.pop t) (popRx e t))
    (pqClosed : e.closed = true → P .procQueue ({ e with pqSources := e.pqSources - 1, pqPend := false }, []))
    (start : e.closed = false → e.started = false →
      P .start (setState (if !e.cfg.passive then sendContact { e with started := true } else { e with started := true })
        "contact-negotiating"))
    (send : e.closed = false → ∀ d,
      P (.send d) (pqTrigger { e with txNextId := e.txNextId + 1, txPendStart := e.txPendStart ++ [⟨e.txNextId, d⟩],
                                      txMap := e.txMap ++ [e.txNextId], sendLog := e.sendLog ++ [⟨e.txNextId, d⟩] },
                   [.ret (.str (natStr e.txNextId))]))
    (terminate : e.closed = false → ∀ r, P (.terminate r) (sendSessTerm e r false))
    (close : e.closed = false → P .close (doClose e))
    (procQueue : e.closed = false → 0 < e.pqSources →
      P .procQueue
        (let r := processQueue { e with pqPend := false }
         ({ r.1 with pqSources := if r.2.2 then r.1.pqSources else r.1.pqSources - 1 }, r.2.1)))
    (pump : e.closed = false → 0 < e.txSrc → ∀ n,
      P (.pump n)
        (let r := pump { e with txIdle := false } n
         let cont := r.1.closed || !r.1.connBuf.isEmpty || !upEmpty e
         ({ r.1 with txWatch := r.1.txWatch && cont, txSrc := if cont then r.1.txSrc else r.1.txSrc - 1 }, r.2)))
    (rx : e.closed = false → ∀ c, P (.rx c) (recvRaw e c))
    (rxEof : e.closed = false → P .rxEof (doClose e))
    (kaFire : e.closed = false → e.kaDeadline.isSome = true →
      P .keepaliveTimer (sendMessage { e with kaDeadline := none } .keepalive, []))
    (idleClose : e.closed = false → e.idleDeadline.isSome = true → e.inTerm = true →
      P .idleTimer (doClose { e with idleDeadline := none }))
    (idleTerm : e.closed = false → e.idleDeadline.isSome = true → e.inTerm = false →
      P .idleTimer (sendSessTerm { e with idleDeadline := none } 1 false))
    (modulate : e.closed = false → ∀ raw p, e.peerInit = some p →
      P (.modulate raw) ({ e with sendSegSize := clampSeg raw p.segMru }, []))
    (ev : Ev) : P ev (step e ev) := by
  unfold step
  cases ev with
  | advance ms => exact advance ms
  | query q => simp only []; split <;> exact query q
  | pop t => simp only []; split <;> exact pop t
  | start =>
    simp only []
    split
    · exact idle _
    · rename_i hc
      split
      · exact idle _
      · rename_i hs
        exact start (by simpa using hc) (by simpa using hs)
  | send d =>
    simp only []
    split
    · exact idle _
    · exact send (Bool.eq_false_iff.mpr ‹_›) d
  | terminate r =>
    simp only []
    split
    · exact idle _
    · exact terminate (Bool.eq_false_iff.mpr ‹_›) r
  | close =>
    simp only []
    split
    · exact idle _
    · exact close (Bool.eq_false_iff.mpr ‹_›)
  | rx c =>
    simp only []
    split
    · exact idle _
    · exact rx (Bool.eq_false_iff.mpr ‹_›) c
  | rxEof =>
    simp only []
    split
    · exact idle _
    · exact rxEof (Bool.eq_false_iff.mpr ‹_›)
  | procQueue =>
    simp only []
    split
    · exact pqClosed ‹_›
    · rename_i hc
      split
      · exact idle _
      · rename_i hs
        exact procQueue (by simpa using hc) (Nat.pos_of_ne_zero (by simpa using hs))
  | pump n =>
    simp only []
    split
    · exact idle _
    · rename_i hc
      split
      · exact idle _
      · rename_i hs
        exact pump (by simpa using hc) (Nat.pos_of_ne_zero (by simpa using hs)) n
  | keepaliveTimer =>
    simp only []
    split
    · exact idle _
    · rename_i hc
      split
      · exact idle _
      · rename_i d hd
        exact kaFire (by simpa using hc) (by rw [hd]; rfl)
  | idleTimer =>
    simp only []
    split
    · exact idle _
    · rename_i hc
      split
      · exact idle _
      · rename_i d hd
        split
        · exact idleClose (by simpa using hc) (by rw [hd]; rfl) ‹_›
        · exact idleTerm (by simpa using hc) (by rw [hd]; rfl) (Bool.eq_false_iff.mpr ‹_›)
  | modulate raw =>
    simp only []
    split
    · exact idle _
    · rename_i hc
      split
      · rename_i p hp
        exact modulate (by simpa using hc) raw p hp
      · exact idle _

/-- A closed endpoint still has its clock advanced, received bundles popped and the idle source of
    `_process_queue` retired; nothing else changes, whatever the event. -/
theorem step_closed (e : Ep) (ev : Ev) (hc : e.closed = true) :
    ∃ n m s p, (step e ev).1 = { e with now := n, rxMap := m, pqSources := s, pqPend := p } := by
  apply step_cases e (P := fun _ r => ∃ n m s p, r.1 = { e with now := n, rxMap := m, pqSources := s, pqPend := p })
  case idle | query => intros; exact ⟨e.now, e.rxMap, e.pqSources, e.pqPend, rfl⟩
  case advance => intro ms; exact ⟨e.now + ms, e.rxMap, e.pqSources, e.pqPend, rfl⟩
  case pop =>
    intro t
    unfold popRx
    split
    · exact ⟨e.now, e.rxMap.filter (·.1 != t), e.pqSources, e.pqPend, rfl⟩
    · exact ⟨e.now, e.rxMap, e.pqSources, e.pqPend, rfl⟩
  case pqClosed => intro _; exact ⟨e.now, e.rxMap, e.pqSources - 1, false, rfl⟩
  all_goals exact fun ho => absurd (hc.symm.trans ho) nofun

theorem step_close (e : Ep) (hc : e.closed = false) : step e .close = doClose e := by
  unfold step; simp only [hc, Bool.false_eq_true, if_false]

theorem step_rxEof (e : Ep) (hc : e.closed = false) : step e .rxEof = doClose e := by
  unfold step; simp only [hc, Bool.false_eq_true, if_false]

theorem step_keepaliveTimer (e : Ep) (d : Nat) (hc : e.closed = false) (hd : e.kaDeadline = some d) :
    step e .keepaliveTimer = (sendMessage { e with kaDeadline := none } .keepalive, []) := by
  unfold step; simp only [hc, hd, Bool.false_eq_true, if_false]

theorem step_idleTimer (e : Ep) (d : Nat) (hc : e.closed = false) (hd : e.idleDeadline = some d) :
    step e .idleTimer = if e.inTerm then doClose { e with idleDeadline := none }
      else sendSessTerm { e with idleDeadline := none } 1 false := by
  unfold step; simp only [hc, hd, Bool.false_eq_true, if_false]

theorem step_rx (e : Ep) (c : Bytes) (hc : e.closed = false) : step e (.rx c) = recvRaw e c := by
  unfold step; simp only [hc, Bool.false_eq_true, if_false]

theorem step_pop (e : Ep) (tid : Nat) : step e (.pop tid) = popRx e tid := by
  unfold step; simp only []; split <;> rfl

theorem step_send_closed (e : Ep) (d : Bytes) (hc : e.closed = true) : step e (.send d) = (e, []) := by
  unfold step; simp only [hc, if_true]

theorem step_pump_open (e : Ep) (n : Nat) (ho : e.closed = false) (hsrc : 0 < e.txSrc) :
    step e (.pump n) =
      (let r := pump { e with txIdle := false } n
       let cont := r.1.closed || !r.1.connBuf.isEmpty || !upEmpty e
       ({ r.1 with txWatch := r.1.txWatch && cont, txSrc := if cont then r.1.txSrc else r.1.txSrc - 1 }, r.2)) := by
  unfold step
  simp only []
  rw [if_neg (by simp [ho])]
  rw [if_neg (by simp; omega)]

/-- `recv_message` records the message before it is handled -/
def Ep.proc (e : Ep) (m : Msg) : Ep := { e with processed := e.processed ++ [m] }

/-- the guards under which `recv_message` answers a message with MSG_REJECT (reason "unexpected") instead of acting on
    it: outside a session; a segment that continues no open transfer; an acknowledgement or refusal of a transfer the
    endpoint does not have in `txMap`; a final acknowledgement of a transfer whose last segment is not out -/
def OutOfPlace (e : Ep) : Msg → Prop
  | .xferSegment flags tid _ _ =>
      e.inSess = false ∨ (hasStart flags = false ∧ ∀ t d, e.rxTmp = some (t, d) → (t == tid) = false)
  | .xferAck flags tid _ =>
      e.inSess = false ∨ e.txMap.contains tid = false ∨ (hasEnd flags = true ∧ e.txPendAck.contains tid = false)
  | .xferRefuse _ tid => e.inSess = false ∨ e.txMap.contains tid = false
  | .sessTerm _ _ => e.inSess = false
  | _ => False

theorem handleMsg_cases (e : Ep) {P : Msg → Res → Prop}
    (reject : ∀ m, OutOfPlace e m → P m (sendReject (e.proc m) rejUnexpected m, []))
    (keepalive : P .keepalive (e.proc .keepalive, []))
    (msgReject : ∀ a b, P (.msgReject a b) (e.proc (.msgReject a b), []))
    (contact : ∀ f, P (.contact f) (onContact (e.proc (.contact f))))
    (sessInit : ∀ ka sm xm node x,
      P (.sessInit ka sm xm node x) (onSessInit (e.proc (.sessInit ka sm xm node x)) ⟨ka, sm, xm, node⟩))
    (sessTerm : ∀ f r, e.inSess = true →
      P (.sessTerm f r)
        (let e' := e.proc (.sessTerm f r)
         let r1 := if !e'.inTerm then sendSessTerm e' r true else (e', [])
         let r2 := flushPendStart { r1.1 with gotTerm := true }
         let r3 := checkSessTerm r2.1
         (r3.1, r1.2 ++ r2.2 ++ r3.2)))
    (segStart : ∀ f t x d, e.inSess = true → hasStart f = true →
      P (.xferSegment f t x d)
        (segAccept { e.proc (.xferSegment f t x d) with rxTmp := some (t, []) } f t [] d
          [.sig "recv_bundle_started" [.str (natStr t), .str ""]]))
    (segNext : ∀ f t x d cur, e.inSess = true → hasStart f = false → e.rxTmp = some (t, cur) →
      P (.xferSegment f t x d) (segAccept (e.proc (.xferSegment f t x d)) f t cur d []))
    (ackEnd : ∀ f t l, e.inSess = true → t ∈ e.txMap → hasEnd f = true → t ∈ e.txPendAck →
      P (.xferAck f t l)
        (let r := checkSessTerm { e.proc (.xferAck f t l) with
                    txPendAck := e.txPendAck.erase t, txMap := e.txMap.erase t, successLog := e.successLog ++ [t] }
         (r.1, Out.sig "send_bundle_finished" [.str (natStr t), .nat l, .str "success"] :: r.2)))
    (ackMid : ∀ f t l, e.inSess = true → t ∈ e.txMap → hasEnd f = false →
      P (.xferAck f t l)
        ({ e.proc (.xferAck f t l) with ackLen := (t, l) :: e.ackLen.filter (·.1 != t) },
         [.sig "send_bundle_intermediate" [.str (natStr t), .nat l]]))
    (refuse : ∀ r t, e.inSess = true → t ∈ e.txMap →
      P (.xferRefuse r t)
        (let e1 := { e.proc (.xferRefuse r t) with
                      txMap := e.txMap.erase t, txPendAck := e.txPendAck.erase t,
                      txPendStart := e.txPendStart.filter (·.tid != t) }
         let e2 := match e1.txTmp with
           | some (it, _) => if it.tid == t then pqTrigger { e1 with txTmp := none } else e1
           | none => e1
         let r' := checkSessTerm e2
         (r'.1, Out.sig "send_bundle_finished"
            [.str (natStr t), .nat ((e.ackLen.find? (·.1 == t)).map (·.2) |>.getD 0),
             .str ("refused with code " ++ natStr r)] :: r'.2)))
    (m : Msg) : P m (handleMsg e m) := by
  unfold handleMsg
  cases m with
  | keepalive => exact keepalive
  | msgReject a b => exact msgReject a b
  | contact f => exact contact f
  | sessInit ka sm xm node x => exact sessInit ka sm xm node x
  | sessTerm f r =>
    simp only []
    unfold onSessTerm
    split
    · rename_i hs
      exact reject _ (show e.inSess = false by simpa using hs)
    · rename_i hs
      exact sessTerm f r (by simpa using hs)
  | xferSegment f t x d =>
    simp only []
    unfold onSegment
    split
    · rename_i hs
      exact reject _ (.inl (by simpa using hs))
    · rename_i hs
      split
      · exact segStart f t x d (by simpa using hs) ‹_›
      · rename_i hst
        split
        · rename_i t' cur hr
          split
          · rename_i ht
            cases (show t' = t by simpa using ht)
            exact segNext f t x d cur (by simpa using hs) (by simpa using hst) hr
          · rename_i ht
            refine reject _ (.inr ⟨by simpa using hst, fun t'' d' h => ?_⟩)
            cases (show (t', cur) = (t'', d') from Option.some.inj (hr.symm.trans h))
            simpa using ht
        · rename_i hr
          exact reject _ (.inr ⟨by simpa using hst, fun t'' d' h => by cases (show e.rxTmp = none from hr).symm.trans h⟩)
  | xferAck f t l =>
    simp only []
    unfold onAck
    split
    · rename_i hs
      exact reject _ (.inl (by simpa using hs))
    · rename_i hs
      split
      · rename_i hm
        exact reject _ (.inr (.inl (by simpa using hm)))
      · rename_i hm
        have hm : t ∈ e.txMap := by simpa using hm
        split
        · rename_i he
          split
          · rename_i hp
            exact reject _ (.inr (.inr ⟨he, by simpa using hp⟩))
          · rename_i hp
            exact ackEnd f t l (by simpa using hs) hm he (by simpa using hp)
        · rename_i he
          exact ackMid f t l (by simpa using hs) hm (by simpa using he)
  | xferRefuse r t =>
    simp only []
    unfold onRefuse
    split
    · rename_i hs
      exact reject _ (.inl (by simpa using hs))
    · rename_i hs
      split
      · rename_i hm
        exact reject _ (.inr (by simpa using hm))
      · rename_i hm
        exact refuse r t (by simpa using hs) (by simpa using hm)

theorem handleMsg_outOfPlace (e : Ep) (m : Msg) :
    OutOfPlace e m → handleMsg e m = (sendReject (e.proc m) rejUnexpected m, []) := by
  apply handleMsg_cases e (P := fun m r => OutOfPlace e m → r = (sendReject (e.proc m) rejUnexpected m, []))
  case reject => intros; rfl
  case keepalive | msgReject | contact | sessInit => intros; contradiction
  case sessTerm => intro _ _ hs h; exact absurd (hs.symm.trans h) nofun
  case segStart =>
    intro _ t _ _ hs hst h
    rcases h with h | ⟨h, _⟩
    · exact absurd (hs.symm.trans h) nofun
    · exact absurd (hst.symm.trans h) nofun
  case segNext =>
    intro _ t _ _ cur hs _ hr h
    rcases h with h | ⟨_, h⟩
    · exact absurd (hs.symm.trans h) nofun
    · simpa using h t cur hr
  case ackEnd =>
    intro _ t _ hs hm _ hp h
    rcases h with h | h | ⟨_, h⟩
    · exact absurd (hs.symm.trans h) nofun
    · simp [hm] at h
    · simp [hp] at h
  case ackMid =>
    intro _ t _ hs hm he h
    rcases h with h | h | ⟨h, _⟩
    · exact absurd (hs.symm.trans h) nofun
    · simp [hm] at h
    · exact absurd (he.symm.trans h) nofun
  case refuse =>
    intro _ t hs hm h
    rcases h with h | h
    · exact absurd (hs.symm.trans h) nofun
    · simp [hm] at h

end Tcpcl
end DtnVerif
