/-
  Lifting the view-level transmit lemmas to endpoint steps: one event preserves `TxInv`.

  `TxInv` holds between the calls of the model's functions, not between the atomic transactions of
  `TcpclTr`: it fails between recording the peer's contact header and answering it, between taking a bundle
  from the queue and its first segment, between `inTerm := true` and the SESS_TERM. So the proof follows the
  call tree, one lemma per function.
-/
import DtnVerif.Lemmas.TcpclTx
import DtnVerif.Lemmas.TcpclTimer
import DtnVerif.Lemmas.TcpclRx
namespace DtnVerif
namespace Tcpcl

/-- what the peer may send for the guarantees of this file: no XFER_REFUSE, and a positive segment MRU -/
def okMsg : Msg → Prop
  | .xferRefuse .. => False
  | .sessInit _ sm _ _ _ => 0 < sm
  | _ => True

@[simp] theorem txv_kaReset (e : Ep) : (kaReset e).txView = e.txView := rfl
@[simp] theorem txv_idleReset (e : Ep) : (idleReset e).txView = e.txView := rfl
@[simp] theorem txv_setState (e : Ep) (s : String) : (setState e s).1.txView = e.txView := by
  unfold setState; split <;> rfl
theorem txv_flush (e : Ep) : (flushPendStart e).1.txView = { e.txView with txPendStart := [] } := rfl

theorem txInv_flush (e : Ep) (P : LState) (hi : TxInv e P) (ht : e.inTerm = true ∨ e.closed = true) :
    TxInv (flushPendStart e).1 P := by
  unfold TxInv; rw [txv_flush]; exact txInvV_flush _ _ hi ht

theorem txInv_doClose (e : Ep) (P : LState) (hi : TxInv e P) : TxInv (doClose e).1 P := by
  unfold doClose
  split
  · exact hi
  · exact txInvV_close _ _ hi

theorem txInv_checkSessTerm (e : Ep) (P : LState) (hi : TxInv e P) : TxInv (checkSessTerm e).1 P := by
  unfold checkSessTerm; split
  · exact txInv_doClose e P hi
  · exact hi

theorem txInv_emit_inert (e : Ep) (P : LState) (m : Msg) (hi : TxInv e P) (hm : m.inert = true)
    (hs : e.inSess = true) : TxInv (sendMessage e m) P := by
  unfold TxInv; rw [txView_sendMessage]; exact txInvV_emit_inert _ _ _ hi hm hs

theorem txInv_sendSessTerm (e : Ep) (P : LState) (r : Nat) (b : Bool) (hi : TxInv e P) :
    TxInv (sendSessTerm e r b).1 P := by
  unfold sendSessTerm
  split
  · exact hi
  · rename_i hs
    split
    · exact hi
    · rename_i ht
      have hs' : e.inSess = true := by simpa using hs
      have ht' : e.inTerm = false := by simpa using ht
      have := txInvV_sessTerm e.txView P (if b then 1 else 0) r hi hs' ht'
      unfold TxInv
      have hv : (flushPendStart (sendMessage (setState { e with inTerm := true } "ending").1
          (.sessTerm (if b then 1 else 0) r))).1.txView =
          { e.txView with inTerm := true, emitted := e.txView.emitted ++ [.sessTerm (if b then 1 else 0) r],
                          txPendStart := [] } := by
        rw [txv_flush, txView_sendMessage, txv_setState]; rfl
      simp only []
      rw [hv]; exact this

theorem txInv_sendSegment (e : Ep) (P : LState) (it : TxItem) (sent : Nat) (hi : TxInv e P)
    (ht : e.txTmp = some (it, sent)) : TxInv (sendSegment e it sent).1 P := by
  unfold TxInv
  rw [view_sendSegment_tx e it sent hi.noPriv]
  exact txInvV_seg_cont _ _ _ _ hi ht

theorem txInv_processQueue (e : Ep) (P : LState) (hi : TxInv e P) (hc : e.closed = false) :
    TxInv (processQueue e).1 P := by
  unfold processQueue
  split
  · rename_i it sent ht
    exact txInv_sendSegment e P it sent hi ht
  · rename_i ht
    split
    · exact hi
    · rename_i hs
      have hs' : e.inSess = true := by simpa using hs
      split
      · rename_i hterm
        exact txInv_checkSessTerm _ _ (txInv_flush e P hi (Or.inl hterm))
      · rename_i hterm
        have hterm' : e.inTerm = false := by simpa using hterm
        split
        · exact hi
        · rename_i it rest hq
          unfold TxInv
          simp only []
          have hv := view_sendSegment_tx { e with txPendStart := rest, txTmp := some (it, 0), nStarted := e.nStarted + 1 }
            it 0 hi.noPriv
          rw [hv]
          exact txInvV_seg_start e.txView P it rest hi ht hs' hterm' hc hq

theorem txv_onContact (e : Ep) :
    (onContact e).1.txView =
      if e.cfg.passive then { e.txView with sentContact := true, emitted := e.emitted ++ [.contact 0] }
      else { e.txView with
             sentInit := true,
             emitted := e.emitted ++ [.sessInit e.cfg.keepalive e.cfg.segMru sizeMax e.cfg.nodeId (sessionExt e.cfg)] } := by
  unfold onContact
  simp only []
  cases hp : e.cfg.passive
  · simp only [Bool.false_eq_true, if_false, Bool.not_false, if_true]
    unfold sendInit setState
    split <;> simp only [sendMessage, sendReady, kaReset, idleReset, Ep.txView]
  · simp only [if_true, Bool.not_true, Bool.false_eq_true, if_false]
    rw [txv_setState]; rfl

theorem txv_sendInit (e : Ep) : (sendInit e).txView =
    { e.txView with
      sentInit := true,
      emitted := e.emitted ++ [.sessInit e.cfg.keepalive e.cfg.segMru sizeMax e.cfg.nodeId (sessionExt e.cfg)] } := by
  simp only [sendInit, sendMessage, sendReady, kaReset, idleReset, Ep.txView]

theorem txv_mergeSession (e : Ep) (p : PeerInit) : (mergeSession e p).txView =
    { e.txView with kaTime := min e.cfg.keepalive p.keepalive, idleTime := e.cfg.idle,
                    sendSegSize := min e.cfg.segInit p.segMru } := rfl

theorem txv_onSessInit (e : Ep) (p : PeerInit) :
    (onSessInit e p).1.txView =
      if e.cfg.passive then
        { e.txView with
          sentInit := true,
          emitted := e.emitted ++ [.sessInit e.cfg.keepalive e.cfg.segMru sizeMax e.cfg.nodeId (sessionExt e.cfg)],
          inSess := true, kaTime := min e.cfg.keepalive p.keepalive, idleTime := e.cfg.idle,
          sendSegSize := min e.cfg.segInit p.segMru, peerInit := some p }
      else
        { e.txView with
          inSess := true, kaTime := min e.cfg.keepalive p.keepalive, idleTime := e.cfg.idle,
          sendSegSize := min e.cfg.segInit p.segMru, peerInit := some p } := by
  unfold onSessInit
  simp only []
  rw [txv_setState, txv_mergeSession]
  cases hp : e.cfg.passive
  · simp only [Bool.false_eq_true, if_false]; rfl
  · simp only [if_true]
    have h0 : ∀ e1 : Ep, ({ e1 with peerInit := some p, inSess := true } : Ep).txView
        = { e1.txView with peerInit := some p, inSess := true } := fun _ => rfl
    rw [h0, txv_sendInit]
    rfl

theorem txInv_onContact (e : Ep) (P P' : LState) (f : Nat) (hi : TxInv e P)
    (hstep : legalStep P (.contact f) = some P') :
    TxInv (onContact (e.proc (.contact f))).1 P' := by
  unfold TxInv
  rw [txv_onContact]
  have := txInvV_contact e.txView P P' f (.contact 0)
    (.sessInit e.cfg.keepalive e.cfg.segMru sizeMax e.cfg.nodeId (sessionExt e.cfg)) rfl
    ⟨_, _, _, _, _, rfl⟩ hi hstep
  exact this

theorem txInv_onSessInit (e : Ep) (P P' : LState) (ka sm xm : Nat) (node ext : Bytes) (hi : TxInv e P)
    (hsm : 0 < sm) (hstep : legalStep P (.sessInit ka sm xm node ext) = some P') :
    TxInv (onSessInit (e.proc (.sessInit ka sm xm node ext)) ⟨ka, sm, xm, node⟩).1 P' := by
  unfold TxInv
  rw [txv_onSessInit]
  have := txInvV_sessInit e.txView P P' ka sm xm node ext
    (.sessInit e.cfg.keepalive e.cfg.segMru sizeMax e.cfg.nodeId (sessionExt e.cfg))
    ⟨_, _, _, _, _, rfl⟩ hsm hi hstep
  exact this

theorem txInv_processed_body (e : Ep) (P P' : LState) (m : Msg) (hi : TxInv e P)
    (hstep : legalStep P m = some P')
    (hb : match m with | .contact _ => False | .sessInit .. => False | _ => True) :
    TxInv { e with processed := e.processed ++ [m] } P' ∧ e.inSess = true := by
  obtain ⟨h2, h2'⟩ := legalStep_body_phase P P' m hstep hb
  refine ⟨txInvV_processed_samePhase e.txView P P' m hi hstep (by rw [h2, h2']), ?_⟩
  have := hi.sess
  simp only [Ep.txView] at this
  rw [this]; simp [h2]

theorem txInv_segAccept (e : Ep) (P : LState) (flags tid : Nat) (cur data : Bytes) (o1 : List Out)
    (hi : TxInv e P) (hs : e.inSess = true) : TxInv (segAccept e flags tid cur data o1).1 P := by
  unfold segAccept
  simp only []
  split
  · refine txInv_checkSessTerm _ _ (txInv_of_view (e := sendMessage e (.xferAck flags tid (cur ++ data).length)) rfl ?_)
    exact txInv_emit_inert e P _ hi rfl hs
  · exact txInv_emit_inert _ P _ (txInv_of_view rfl hi) rfl hs

theorem txInv_handleMsg (e : Ep) (P P' : LState) (m : Msg) (hi : TxInv e P)
    (hstep : legalStep P m = some P') (hok : okMsg m) : TxInv (handleMsg e m).1 P' := by
  have body := fun m => txInv_processed_body e P P' m hi
  revert hstep hok
  apply handleMsg_cases e (P := fun m r => legalStep P m = some P' → okMsg m → TxInv r.1 P')
  case reject =>
    intro m hm hstep _
    -- `OutOfPlace` is `False` of a contact header and of SESS_INIT
    obtain ⟨h1, hs⟩ := body m hstep (by cases m <;> first | trivial | exact hm)
    exact txInv_emit_inert _ P' _ h1 rfl hs
  case keepalive => intro hstep _; exact (body _ hstep trivial).1
  case msgReject => intro a b hstep _; exact (body _ hstep trivial).1
  case contact => intro f hstep _; exact txInv_onContact e P P' f hi hstep
  case sessInit => intro ka sm xm node ext hstep hok; exact txInv_onSessInit e P P' ka sm xm node ext hi hok hstep
  case sessTerm =>
    intro f r hs hstep _
    have h1 : TxInv (e.proc (.sessTerm f r)) P' := (body _ hstep trivial).1
    have hs : (e.proc (.sessTerm f r)).inSess = true := hs
    generalize e.proc (.sessTerm f r) = e1 at h1 hs ⊢
    simp only []
    have h2 : TxInv (if !e1.inTerm then sendSessTerm e1 r true else (e1, [])).1 P' := by
      split
      · exact txInv_sendSessTerm e1 P' r true h1
      · exact h1
    have hterm : (if !e1.inTerm then sendSessTerm e1 r true else (e1, [])).1.inTerm = true := by
      split
      · rename_i h
        exact (sendSessTerm_sent e1 r true hs (by simpa using h)).2.2.1
      · rename_i h; simpa using h
    exact txInv_checkSessTerm _ _ (txInv_flush _ P' (txInv_of_view rfl h2) (Or.inl hterm))
  case segStart =>
    intro f t x d hs _ hstep _
    exact txInv_segAccept _ P' _ _ _ _ _ (txInv_of_view rfl (body _ hstep trivial).1) hs
  case segNext =>
    intro f t x d cur hs _ _ hstep _
    exact txInv_segAccept _ P' _ _ _ _ _ (body _ hstep trivial).1 hs
  case ackEnd =>
    intro f t l _ _ _ _ hstep _
    exact txInv_checkSessTerm _ _ (txInv_of_view rfl (body _ hstep trivial).1)
  case ackMid => intro f t l _ _ _ hstep _; exact txInv_of_view rfl (body _ hstep trivial).1
  case refuse => intro _ _ _ _ _ hok; exact hok.elim

def TxOk (e : Ep) : Prop :=
  (legalRun {} e.processed).isSome → (∀ m ∈ e.processed, okMsg m) → ∃ P, TxInv e P

theorem TxOk.imp {e e' : Ep} (h : TxOk e) (hp : e'.processed = e.processed) (f : ∀ P, TxInv e P → TxInv e' P) :
    TxOk e' := by
  unfold TxOk; rw [hp]
  exact fun hl ho => (h hl ho).imp f

theorem TxOk.of_view {e e' : Ep} (h : TxOk e) (hv : e'.txView = e.txView) : TxOk e' :=
  h.imp (congrArg TxView.processed hv) fun _ => txInv_of_view hv

/-- both hypotheses are prefix-closed, so they hold of what was processed before `m` -/
theorem txOk_handleMsg (e : Ep) (m : Msg) (h : TxOk e) : TxOk (handleMsg e m).1 := by
  intro hleg hok
  rw [processed_handleMsg] at hleg hok
  obtain ⟨P, hi⟩ := h (legalRun_prefix _ _ _ hleg) fun x hx => hok x (List.mem_append_left _ hx)
  have hP : legalRun {} e.processed = some P := hi.hP
  rw [legalRun_snoc _ _ _ _ hP] at hleg
  obtain ⟨P', hP'⟩ := Option.isSome_iff_exists.mp hleg
  exact ⟨P', txInv_handleMsg e P P' m hi hP' (hok m (List.mem_append_right _ (List.mem_singleton_self m)))⟩

theorem txOk_handleMsgs (ms : List Msg) (e : Ep) (h : TxOk e) : TxOk (handleMsgs e ms).1 := by
  induction ms generalizing e with
  | nil => exact h
  | cons m ms ih =>
    unfold handleMsgs
    split
    · exact h
    · exact ih _ (txOk_handleMsg _ m (h.of_view rfl))

theorem txOk_recvRaw (e : Ep) (c : Bytes) (h : TxOk e) : TxOk (recvRaw e c).1 := by
  unfold recvRaw
  simp only []
  have h0 : TxOk (rxEntry e c) := h.of_view (by simp only [rxEntry, idleReset, Ep.txView])
  have h1 := txOk_handleMsgs (feed e.rx c).2 (rxEntry e c) h0
  generalize (handleMsgs (rxEntry e c) (feed e.rx c).2).1 = x at h1 ⊢
  have h2 : TxOk { x with rxMore := false } := h1.of_view rfl
  split
  · exact h2.imp (congrArg RxView.processed (view_doClose _)) (txInv_doClose _)
  · exact h2

theorem txInv_pump (e : Ep) (n : Nat) (P : LState) (hi : TxInv e P) : TxInv (pump e n).1 P := by
  unfold pump writeConn
  have h1 : TxInv (pullTx e) P := by
    refine txInv_of_view ?_ hi
    unfold pullTx; split
    · unfold sendBufferDecreased; split
      · rw [txView_pqTrigger]; rfl
      · rfl
    · rfl
  split
  · split
    · exact txInv_checkSessTerm _ _ h1
    · exact h1
  · simp only []
    split
    · exact h1
    · split
      · exact txInv_checkSessTerm _ _ (txInv_of_view rfl h1)
      · exact txInv_of_view rfl h1

theorem txInv_step (e : Ep) (ev : Ev) (P : LState) (hi : TxInv e P) (htm : TimerInv e) :
    (∀ d, ev = .send d → d.length < 2 ^ 64) →
    (legalRun {} (step e ev).1.processed).isSome → (∀ m ∈ (step e ev).1.processed, okMsg m) →
    ∃ P', TxInv (step e ev).1 P' := by
  apply step_cases e (P := fun ev r => (∀ d, ev = .send d → d.length < 2 ^ 64) →
    (legalRun {} r.1.processed).isSome → (∀ m ∈ r.1.processed, okMsg m) → ∃ P', TxInv r.1 P')
  case idle | query => intros; exact ⟨P, hi⟩
  case advance | pqClosed => intros; exact ⟨P, txInv_of_view rfl hi⟩
  case pop =>
    intro t _ _ _
    refine ⟨P, txInv_of_view ?_ hi⟩
    unfold popRx; split <;> rfl
  case start => intro _ hs; exact absurd (hi.started.symm.trans hs) nofun
  case send =>
    intro _ d hsend _ _
    refine ⟨P, ?_⟩
    unfold TxInv
    rw [txView_pqTrigger]
    exact txInvV_send e.txView P d hi (hsend d rfl)
  case terminate => intro _ r _ _ _; exact ⟨P, txInv_sendSessTerm e P r false hi⟩
  case close | rxEof => intros; exact ⟨P, txInv_doClose e P hi⟩
  case procQueue =>
    intro hc _ _ _ _
    exact ⟨P, txInv_of_view rfl (txInv_processQueue { e with pqPend := false } P (txInv_of_view rfl hi) hc)⟩
  case pump =>
    intro _ _ n _ _ _
    exact ⟨P, txInv_of_view rfl (txInv_pump { e with txIdle := false } n P (txInv_of_view (e := e) rfl hi))⟩
  case rx => intro _ c _ hleg hok; exact txOk_recvRaw e c (fun _ _ => ⟨P, hi⟩) hleg hok
  case kaFire =>
    intro _ hd _ _ _
    exact ⟨P, txInv_emit_inert _ P .keepalive (txInv_of_view rfl hi) rfl (hi.kaT (htm.1 hd))⟩
  case idleClose => intros; exact ⟨P, txInv_doClose _ _ (txInv_of_view rfl hi)⟩
  case idleTerm => intros; exact ⟨P, txInv_sendSessTerm _ P 1 false (txInv_of_view rfl hi)⟩
  case modulate =>
    intro _ raw p hp _ _ _
    refine ⟨P, ?_⟩
    have hv : e.txView.peerInit = some p := hp
    obtain ⟨hpos, _, hem⟩ := hi.mru.1 p hv
    have hclamp : clampSeg raw p.segMru ≤ p.segMru := Nat.min_le_right _ _
    have hcpos : 0 < clampSeg raw p.segMru := by
      unfold clampSeg segSizeMin
      have : (10240 : Int) ≤ max raw 10240 := Int.le_max_right _ _
      have h2 : 10240 ≤ (max raw 10240).toNat := by omega
      omega
    exact { hi with seg := fun _ => hcpos,
                    mru := ⟨fun q hq => by
                              have hq' : e.peerInit = some q := hq
                              have : q = p := by rw [hp] at hq'; exact (Option.some.inj hq').symm
                              subst this; exact ⟨hpos, hclamp, hem⟩,
                            hi.mru.2.1, hi.mru.2.2⟩ }

end Tcpcl
end DtnVerif
