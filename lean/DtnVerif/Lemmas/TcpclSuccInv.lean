/-
  `send_bundle_finished(tid, 'success')` is emitted only on processing a final XFER_ACK for `tid`.
-/
import DtnVerif.Lemmas.TcpclSucc
import DtnVerif.Lemmas.TcpclRx
import DtnVerif.Lemmas.TcpclRxAck
namespace DtnVerif
namespace Tcpcl

def SuccInv (e : Ep) : Prop := ∀ t ∈ e.successLog, EndAcked t e.processed

theorem succInv_tr {k : Kind} {a b : Ep} (h : Tr k a b) (hi : SuccInv a) : SuccInv b := by
  intro x hx
  rcases h.successLog_cases with hs | ⟨f, t, l, he, hs, hp⟩
  · obtain ⟨ms, hp⟩ := h.processed_prefix
    rw [hs] at hx
    exact hp ▸ (hi x hx).mono ms
  · rw [hs] at hx
    rw [hp]
    rcases List.mem_append.mp hx with hx | hx
    · exact (hi x hx).mono _
    · cases List.mem_singleton.mp hx
      exact ⟨f, l, he, List.mem_append_right _ (List.mem_singleton_self _)⟩

theorem succInv_step (e : Ep) (ev : Ev) (hi : SuccInv e) : SuccInv (step e ev).1 :=
  step_inv (fun _ _ _ => succInv_tr) e ev hi

theorem succInv_init (cfg : Cfg) : SuccInv { cfg := cfg } := by intro t ht; simp at ht

end Tcpcl
end DtnVerif
