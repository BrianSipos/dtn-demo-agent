/-
  Acknowledgement causality, endpoint side.

  `Pending e` = (id, END flag) of the segments emitted so far that have not been answered by an
  acknowledgement yet, counting every XFER_ACK processed as answering one segment, in order.
  `CI e`: every pending END segment's transfer awaits its acknowledgement (`txPendAck`), every other
  pending segment's transfer awaits it or is still being segmented (`txTmp`), and no MSG_REJECT was
  ever emitted.  Preserved by every transaction outside the receive path (`ci_tr`), and by the handlers
  of received messages as long as the peer's messages are legal, contain no XFER_REFUSE, and each
  XFER_ACK answers the first pending segment (alignment). The handlers are walked function by function:
  that none of them rejects rests on `QInv` and `TxInv` of the state in which the message arrives.
-/
import DtnVerif.Lemmas.TcpclCausalFrames
import DtnVerif.Lemmas.TcpclQueueRx
import DtnVerif.Lemmas.TcpclTxStep
namespace DtnVerif
namespace Tcpcl

def nAcks (e : Ep) : Nat := (acksOf e.processed).length

def Pending (e : Ep) : List (Nat × Bool) := (segInfo e.emitted).drop (nAcks e)

def POK (e : Ep) (x : Nat × Bool) : Prop :=
  (x.2 = true → x.1 ∈ e.txPendAck) ∧ (x.2 = false → x.1 ∈ e.txPendAck ∨ x.1 ∈ tmpTids e.txTmp)

structure CI (e : Ep) : Prop where
  ts : ∀ x ∈ Pending e, POK e x
  norej : rejsOf e.emitted = []

def Ep.cv (e : Ep) := (acksOf e.processed, segInfo e.emitted, tmpTids e.txTmp, e.txPendAck, rejsOf e.emitted)

theorem CI.of_cv {e e' : Ep} (hi : CI e) (h : e'.cv = e.cv) : CI e' := by
  simp only [Ep.cv, Prod.mk.injEq] at h
  obtain ⟨h1, h2, h3, h4, h5⟩ := h
  refine ⟨?_, by rw [h5]; exact hi.norej⟩
  intro x hx
  have hx' : x ∈ Pending e := by simpa [Pending, nAcks, h1, h2] using hx
  have := hi.ts x hx'
  simpa [POK, h3, h4] using this

theorem ci_sent (e : Ep) (m : Msg) (hs : segInfoOf m = []) (hr : m.isRej = false) (hi : CI e) :
    CI (e.sent m) := by
  refine hi.of_cv ?_
  rw [← sendMessage_eq]
  simp only [Ep.cv, proc_sendMessage, si_sendMessage, hs, List.append_nil, tt_sendMessage, pa_sendMessage,
    rj_sendMessage, rejsOf_cons, hr, Bool.false_eq_true, if_false, rejsOf_nil]
theorem ci_sendContact (e : Ep) (hi : CI e) : CI (sendContact e) := by
  rw [sendContact_eq]
  exact (ci_sent e (.contact 0) rfl rfl hi).of_cv rfl
theorem ci_sendInit (e : Ep) (hi : CI e) : CI (sendInit e) := by
  rw [sendInit_eq]
  exact (ci_sent e (.sessInit e.cfg.keepalive e.cfg.segMru sizeMax e.cfg.nodeId (sessionExt e.cfg)) rfl rfl hi).of_cv rfl
theorem ci_mergeSession (e : Ep) (p : PeerInit) (hi : CI e) : CI (mergeSession e p) :=
  hi.of_cv (by simp only [Ep.cv, mergeSession, kaReset, idleReset])

theorem pending_emit_seg (e e' : Ep) (x : Nat × Bool) (hp : e'.processed = e.processed)
    (hs : segInfo e'.emitted = segInfo e.emitted ++ [x]) (hn : nAcks e ≤ (segInfo e.emitted).length) :
    Pending e' = Pending e ++ [x] := by
  simp only [Pending, nAcks, hp, hs]
  exact List.drop_append_of_le_length hn

theorem ci_emit_seg (e e' : Ep) (t : Nat) (b : Bool) (hi : CI e) (hn : nAcks e ≤ (segInfo e.emitted).length)
    (hp : e'.processed = e.processed) (hs : segInfo e'.emitted = segInfo e.emitted ++ [(t, b)])
    (hr : rejsOf e'.emitted = rejsOf e.emitted) (hold : ∀ x, POK e x → POK e' x) (hnew : POK e' (t, b)) : CI e' := by
  refine ⟨?_, hr.trans hi.norej⟩
  intro x hx
  rw [pending_emit_seg e e' (t, b) hp hs hn, List.mem_append, List.mem_singleton] at hx
  rcases hx with hx | rfl
  · exact hold x (hi.ts x hx)
  · exact hnew

/-- A transaction outside the receive path. `hn`: when a segment is emitted, no more acknowledgements were
    processed than segments emitted before (alignment); its transfer is the one in `txTmp`, and a final segment
    moves it to `txPendAck`. -/
theorem ci_tr {k : Kind} {a b : Ep} (h : Tr k a b) (hk : k.recv = false)
    (hn : k = .pq → nAcks a ≤ (segInfo a.emitted).length) (hi : CI a) : CI b := by
  cases h with
  | contact => exact (ci_sent a (.contact 0) rfl rfl hi).of_cv rfl
  | init =>
    exact (ci_sent a (.sessInit a.cfg.keepalive a.cfg.segMru sizeMax a.cfg.nodeId (sessionExt a.cfg)) rfl rfl hi).of_cv rfl
  | term _ f r _ => exact ci_sent a (.sessTerm f r) rfl rfl hi
  | kaFire _ _ => exact ci_sent { a with kaDeadline := none } .keepalive rfl rfl (hi.of_cv rfl)
  | txStart _ it rest _ _ ht _ =>
    refine ⟨fun x hx => ?_, hi.norej⟩
    obtain ⟨g1, g2⟩ := hi.ts x hx
    exact ⟨g1, fun hf => .inl ((g2 hf).elim id fun g => by rw [ht] at g; exact (List.not_mem_nil g).elim)⟩
  | segEsc _ it sent n ht => exact hi.of_cv (by simp only [Ep.cv, ht, tmpTids])
  | segMid _ it sent f x d n ht he =>
    refine ci_emit_seg a _ it.tid (hasEnd f) hi (hn rfl) (proc_sendMessage a (.xferSegment f it.tid x d))
      (si_sendMessage a (.xferSegment f it.tid x d))
      ((rj_sendMessage a (.xferSegment f it.tid x d)).trans (List.append_nil _)) ?_ ?_
    · intro y ⟨g1, g2⟩
      dsimp only [POK]
      rw [pa_sent]
      refine ⟨g1, fun h => (g2 h).imp_right fun g => ?_⟩
      rw [ht] at g; exact g
    · exact ⟨fun h => absurd (he.symm.trans h) nofun, fun _ => .inr (List.mem_singleton.mpr rfl)⟩
  | segEnd _ it sent f x d ht he =>
    refine ci_emit_seg a _ it.tid (hasEnd f) hi (hn rfl) (proc_sendMessage a (.xferSegment f it.tid x d))
      (si_sendMessage a (.xferSegment f it.tid x d))
      ((rj_sendMessage a (.xferSegment f it.tid x d)).trans (List.append_nil _)) ?_ ?_
    · intro y ⟨g1, g2⟩
      refine ⟨fun h => List.mem_append_left _ (g1 h), fun h => .inl ?_⟩
      rcases g2 h with g | g
      · exact List.mem_append_left _ g
      · rw [ht] at g; exact List.mem_append_right _ g
    · exact ⟨fun _ => List.mem_append_right _ (List.mem_singleton.mpr rfl), fun h => absurd (he.symm.trans h) nofun⟩
  | idleReset | rxFeed | rxMore | proc | reject | merge | gotTerm | rxMid | rxEnd | ackEnd | ackMid
  | refused => exact absurd hk (by decide)
  | _ => exact hi.of_cv rfl

theorem nAcks_le_tr {k : Kind} {a b : Ep} (h : Tr k a b) (hk : k.recv = false)
    (hn : nAcks a ≤ (segInfo a.emitted).length) : nAcks b ≤ (segInfo b.emitted).length := by
  have hp : nAcks b = nAcks a := by rw [nAcks, (h.logs_eq hk).2]; rfl
  rcases h.emitted with he | ⟨m, he, _⟩
  · rw [hp, he]; exact hn
  · rw [hp, he, segInfo_append, List.length_append]; exact Nat.le_trans hn (Nat.le_add_right _ _)

theorem Reach.ci {k : Kind} {a b : Ep} (h : Reach k a b) (hk : k.recv = false) (hq : k ≠ .pq) (hi : CI a) : CI b :=
  h.inv (fun _ _ _ t hs hi => ci_tr t (Kind.recv_of_sub hs hk) (fun e => absurd e (Kind.ne_of_sub hs hq (.inr (.inr rfl)))) hi) hi

theorem ci_setState (e : Ep) (s : String) (hi : CI e) : CI (setState e s).1 :=
  (reach_setState (k := .loc) e s).ci rfl nofun hi
theorem ci_checkSessTerm (e : Ep) (hi : CI e) : CI (checkSessTerm e).1 :=
  (reach_checkSessTerm (k := .loc) e).ci rfl nofun hi
theorem ci_writeConn (e : Ep) (n : Nat) (up : Bool) (hi : CI e) : CI (writeConn e n up).1 :=
  (reach_writeConn e n up).ci rfl nofun hi

theorem ci_onContact (e : Ep) (hi : CI e) : CI (onContact e).1 := by
  unfold onContact
  have h1 : CI (if e.cfg.passive then sendContact e else e) := by
    split
    · exact ci_sendContact e hi
    · exact hi
  have h2 := ci_setState _ "session-negotiating" h1
  dsimp only
  split
  · exact ci_sendInit _ h2
  · exact h2
theorem ci_onSessInit (e : Ep) (p : PeerInit) (hi : CI e) : CI (onSessInit e p).1 := by
  unfold onSessInit
  have h1 : CI (if e.cfg.passive then sendInit e else e) := by
    split
    · exact ci_sendInit e hi
    · exact hi
  generalize (if e.cfg.passive then sendInit e else e) = e1 at h1 ⊢
  exact ci_setState _ _ (ci_mergeSession _ p (h1.of_cv rfl))

theorem ci_segAccept (e : Ep) (f t : Nat) (c d : Bytes) (o : List Out) (hi : CI e) : CI (segAccept e f t c d o).1 := by
  unfold segAccept
  dsimp only
  split
  · have h := ci_sent e (.xferAck f t (c ++ d).length) rfl rfl hi
    rw [sendMessage_eq]
    generalize e.sent (.xferAck f t (c ++ d).length) = e2 at h ⊢
    exact ci_checkSessTerm _ (h.of_cv rfl)
  · exact ci_sent _ _ rfl rfl (hi.of_cv (e' := { e with rxTmp := some (t, c ++ d) }) rfl)

/-- `hs`, `hcur`: what legality of the peer's sequence gives — in session, and a non-START segment
    continues the open transfer -/
theorem ci_onSegment (e : Ep) (m : Msg) (f t : Nat) (d : Bytes) (hs : e.inSess = true)
    (hcur : hasStart f = false → ∃ c, e.rxTmp = some (t, c)) (hi : CI e) : CI (onSegment e m f t d).1 := by
  unfold onSegment
  split
  · rename_i h; simp [hs] at h
  · split
    · exact ci_segAccept _ _ _ _ _ _ (hi.of_cv rfl)
    · rename_i hst
      obtain ⟨c, hc⟩ := hcur (by simpa using hst)
      simp only [hc, beq_self_eq_true, if_true]
      exact ci_segAccept e _ _ _ _ _ hi

theorem ci_onSessTerm (e : Ep) (m : Msg) (r : Nat) (hs : e.inSess = true) (hi : CI e) : CI (onSessTerm e m r).1 := by
  unfold onSessTerm
  split
  · rename_i h; simp [hs] at h
  · simp only []
    refine ci_checkSessTerm _ (CI.of_cv (e := (if (!e.inTerm) = true then sendSessTerm e r true else (e, [])).1) ?_ rfl)
    split
    · exact (reach_sendSessTerm (k := .loc) e r true).ci rfl nofun hi
    · exact hi

/-- the acknowledgement answers the first pending segment (`hhead`), its transfer is known (`hmap`,
    from `QInv`), and for an END acknowledgement no later pending segment carries the same id (`hlast`) -/
theorem ci_onAck (e0 : Ep) (f t l : Nat) (hs : e0.inSess = true) (hi : CI e0)
    (hhead : Pending e0 = (t, hasEnd f) :: (Pending e0).tail)
    (hmap : ∀ x, x ∈ e0.txPendAck ∨ x ∈ tmpTids e0.txTmp → x ∈ e0.txMap)
    (hlast : hasEnd f = true → ∀ x ∈ (Pending e0).tail, x.1 ≠ t) :
    CI (onAck { e0 with processed := e0.processed ++ [.xferAck f t l] } (.xferAck f t l) f t l).1 := by
  have hin : (t, hasEnd f) ∈ Pending e0 := by rw [hhead]; simp
  obtain ⟨g1, g2⟩ := hi.ts _ hin
  have htm : t ∈ e0.txMap := by
    cases he : hasEnd f
    · exact hmap t (g2 he)
    · exact hmap t (Or.inl (g1 he))
  -- the acknowledgement recorded, the first pending segment is answered
  have htail : ∀ {e' : Ep} {x : Nat × Bool}, x ∈ Pending e' → e'.processed = e0.processed ++ [.xferAck f t l] →
      e'.emitted = e0.emitted → x ∈ (Pending e0).tail := by
    intro e' x hx h1 h2
    simpa only [Pending, nAcks, h1, h2, acksOf_append, acksOf_cons, isAck, if_true, acksOf_nil, List.length_append,
      List.length_cons, List.length_nil, List.tail_drop] using hx
  unfold onAck
  simp only [hs, Bool.not_true, Bool.false_eq_true, if_false]
  have htm' : e0.txMap.contains t = true := by simpa using htm
  simp only [htm', Bool.not_true, Bool.false_eq_true, if_false]
  split
  · rename_i hend
    have hpa : t ∈ e0.txPendAck := g1 hend
    have hpa' : e0.txPendAck.contains t = true := by simpa using hpa
    simp only [hpa', Bool.not_true, Bool.false_eq_true, if_false]
    refine ci_checkSessTerm _ ⟨?_, hi.norej⟩
    intro x hx
    have hx := htail hx rfl rfl
    have hx0 : x ∈ Pending e0 := List.mem_of_mem_tail hx
    obtain ⟨k1, k2⟩ := hi.ts x hx0
    have hne : x.1 ≠ t := hlast hend x hx
    refine ⟨fun h => (List.mem_erase_of_ne hne).mpr (k1 h), fun h => ?_⟩
    rcases k2 h with k | k
    · exact Or.inl ((List.mem_erase_of_ne hne).mpr k)
    · exact Or.inr k
  · refine ⟨?_, hi.norej⟩
    intro x hx
    have hx := htail hx rfl rfl
    exact hi.ts x (List.mem_of_mem_tail hx)

theorem ci_processed_nonack (e : Ep) (m : Msg) (hm : isAck m = false) (hi : CI e) :
    CI { e with processed := e.processed ++ [m] } :=
  hi.of_cv (by cases m <;> simp [Ep.cv] at hm ⊢)

theorem ci_handleMsg (e : Ep) (P P' : LState) (m : Msg) (hi : CI e) (hq : QInv e) (hrx : RxInv e) (htx : TxInv e P)
    (hstep : legalStep P m = some P') (hok : okMsg m)
    (halign : ∀ f t l, m = .xferAck f t l →
      Pending e = (t, hasEnd f) :: (Pending e).tail ∧ (hasEnd f = true → ∀ x ∈ (Pending e).tail, x.1 ≠ t)) :
    CI (handleMsg e m).1 := by
  unfold handleMsg
  cases m with
  | contact f => exact ci_onContact _ (ci_processed_nonack e _ rfl hi)
  | sessInit ka sm xm node ext => exact ci_onSessInit _ _ (ci_processed_nonack e _ rfl hi)
  | keepalive => exact ci_processed_nonack e _ rfl hi
  | msgReject a b => exact ci_processed_nonack e _ rfl hi
  | xferRefuse r t => exact absurd hok (by simp [okMsg])
  | sessTerm f r =>
    have hs := (txInv_processed_body e P P' _ htx hstep trivial).2
    exact ci_onSessTerm _ _ r hs (ci_processed_nonack e _ rfl hi)
  | xferSegment f t x d =>
    have hs := (txInv_processed_body e P P' _ htx hstep trivial).2
    refine ci_onSegment _ _ f t d hs ?_ (ci_processed_nonack e _ rfl hi)
    intro hst
    obtain ⟨tot, so, hc⟩ := legalStep_nonstart_cur P P' f t x d hstep hst
    -- the receiver holds the transfer the monitor has open
    rw [hrx.2.1]
    exact (owed_info e.processed {} P {} rel_init htx.hP).2.cur_of hc
  | xferAck f t l =>
    have hs := (txInv_processed_body e P P' _ htx hstep trivial).2
    obtain ⟨a1, a2⟩ := halign f t l rfl
    refine ci_onAck e f t l hs hi a1 ?_ a2
    intro x hx
    refine (hq.iff x).mpr ?_
    simp only [Ep.inflight, List.mem_append]
    rcases hx with hx | hx
    · exact Or.inr (Or.inr hx)
    · exact Or.inr (Or.inl hx)

theorem si_handleMsg (e : Ep) (m : Msg) : segInfo (handleMsg e m).1.emitted = segInfo e.emitted :=
  (reach_handleMsg e m).segs_eq nofun

theorem acksOf_prefix {a b : List Msg} (h : a <+: b) : acksOf a <+: acksOf b := by
  obtain ⟨t, rfl⟩ := h
  simp only [acksOf_append]; exact List.prefix_append _ _

theorem drop_of_snoc_prefix {α} (l : List α) (x : α) (L : List α) (h : l ++ [x] <+: L) :
    L.drop l.length = x :: (L.drop l.length).tail ∧ L = l ++ x :: (L.drop l.length).tail := by
  obtain ⟨t, rfl⟩ := h
  simp [List.append_assoc]

theorem align_head (e : Ep) (P : LState) (htx : TxInv e P) (f t l : Nat)
    (h : (acksOf (e.processed ++ [.xferAck f t l])).map ackInfo <+: segInfo e.emitted) :
    Pending e = (t, hasEnd f) :: (Pending e).tail ∧ (hasEnd f = true → ∀ x ∈ (Pending e).tail, x.1 ≠ t) := by
  have h' : (acksOf e.processed).map ackInfo ++ [(t, hasEnd f)] <+: segInfo e.emitted := by
    simpa [ackInfo, ackTid, ackIsEnd] using h
  obtain ⟨d1, d2⟩ := drop_of_snoc_prefix _ _ _ h'
  have hlen : ((acksOf e.processed).map ackInfo).length = nAcks e := by simp [nAcks]
  rw [hlen] at d1 d2
  refine ⟨d1, ?_⟩
  intro hend x hx
  have hL := htx.L
  simp only [Ep.txView] at hL
  have := legal_end_last e.emitted {} _ hL curLe_init ((acksOf e.processed).map ackInfo) t (Pending e).tail
    (by rw [hend] at d2; exact d2) x hx
  exact Nat.ne_of_gt this

theorem ci_handleMsgs (ms : List Msg) : ∀ (e : Ep) (P : LState), CI e → QInv e → RxInv e → TxInv e P →
    (legalRun {} (handleMsgs e ms).1.processed).isSome → (∀ m ∈ (handleMsgs e ms).1.processed, okMsg m) →
    (acksOf (handleMsgs e ms).1.processed).map ackInfo <+: segInfo e.emitted →
    CI (handleMsgs e ms).1 ∧ QInv (handleMsgs e ms).1 := by
  induction ms with
  | nil => intro e P hi hq _ _ _ _ _; exact ⟨hi, hq⟩
  | cons m ms ih =>
    intro e P hi hq hrx htx hleg hok hal
    unfold handleMsgs at hleg hok hal ⊢
    split
    · exact ⟨hi, hq⟩
    · rename_i hc
      have hc' : ¬ (e.closed = true) := by simpa using hc
      rw [if_neg hc'] at hleg hok hal
      simp only [] at hleg hok hal
      have hi : CI { e with rxMore := !ms.isEmpty || e.rx.dead } := hi.of_cv rfl
      have hq : QInv { e with rxMore := !ms.isEmpty || e.rx.dead } := QInv.of_qv (e := e) rfl hq
      have hrx : RxInv { e with rxMore := !ms.isEmpty || e.rx.dead } := rxInv_of_view (e := e) rfl hrx
      have htx : TxInv { e with rxMore := !ms.isEmpty || e.rx.dead } P := txInv_of_view (e := e) rfl htx
      have hal : List.map ackInfo (acksOf (handleMsgs (handleMsg { e with rxMore := !ms.isEmpty || e.rx.dead } m).1 ms).1.processed)
          <+: segInfo ({ e with rxMore := !ms.isEmpty || e.rx.dead } : Ep).emitted := hal
      generalize ({ e with rxMore := !ms.isEmpty || e.rx.dead } : Ep) = e at *
      have hpre := processed_prefix_handleMsgs ms (handleMsg e m).1
      have hl1 := legal_of_prefix hpre hleg
      have hP0 : legalRun {} e.processed = some P := htx.hP
      rw [processed_handleMsg, legalRun_snoc _ _ _ _ hP0] at hl1
      obtain ⟨P1, hP1⟩ := Option.isSome_iff_exists.mp hl1
      have hokm : okMsg m := by
        apply hok; apply hpre.subset; rw [processed_handleMsg]; simp
      have halign : ∀ f t l, m = .xferAck f t l →
          Pending e = (t, hasEnd f) :: (Pending e).tail ∧ (hasEnd f = true → ∀ x ∈ (Pending e).tail, x.1 ≠ t) := by
        intro f t l hm
        subst hm
        refine align_head e P htx f t l ?_
        have h1 : acksOf (e.processed ++ [.xferAck f t l]) <+: acksOf (handleMsgs (handleMsg e (.xferAck f t l)).1 ms).1.processed := by
          apply acksOf_prefix; rw [← processed_handleMsg]; exact hpre
        exact List.IsPrefix.trans (List.IsPrefix.map ackInfo h1) hal
      have hi1 := ci_handleMsg e P P1 m hi hq hrx htx hP1 hokm halign
      have hq1 := (q_handleMsg e m hq).1
      have hrx1 := rxInv_handleMsg e m hrx
      have htx1 := txInv_handleMsg e P P1 m htx hP1 hokm
      exact ih _ P1 hi1 hq1 hrx1 htx1 hleg hok (by rw [si_handleMsg]; exact hal)

theorem si_recvRaw (e : Ep) (c : Bytes) : segInfo (recvRaw e c).1.emitted = segInfo e.emitted :=
  (reach_recvRaw e c).segs_eq nofun

theorem ci_recvRaw (e : Ep) (c : Bytes) (P : LState) (hi : CI e) (hq : QInv e) (hrx : RxInv e) (htx : TxInv e P)
    (hleg : (legalRun {} (recvRaw e c).1.processed).isSome) (hok : ∀ m ∈ (recvRaw e c).1.processed, okMsg m)
    (hal : (acksOf (recvRaw e c).1.processed).map ackInfo <+: segInfo e.emitted) : CI (recvRaw e c).1 := by
  unfold recvRaw at hleg hok hal ⊢
  simp only [] at hleg hok hal ⊢
  have h0 : CI (rxEntry e c) := hi.of_cv rfl
  have hq0 : QInv (rxEntry e c) := QInv.of_qv (e := e) rfl hq
  have hrx0 : RxInv (rxEntry e c) := hrx
  have htx0 : TxInv (rxEntry e c) P := txInv_of_view rfl htx
  split
  · rename_i hd
    simp only [hd, if_true, proc_doClose] at hleg hok hal
    exact (reach_doClose (k := .loc) _).ci rfl nofun (CI.of_cv (e := (handleMsgs (rxEntry e c) (feed e.rx c).2).1) (ci_handleMsgs _ _ P h0 hq0 hrx0 htx0 hleg hok hal).1 rfl)
  · rename_i hd
    simp only [hd, Bool.false_eq_true, if_false] at hleg hok hal
    exact CI.of_cv (e := (handleMsgs (rxEntry e c) (feed e.rx c).2).1) (ci_handleMsgs _ _ P h0 hq0 hrx0 htx0 hleg hok hal).1 rfl

theorem ci_step_local (e : Ep) (ev : Ev) (hne : ∀ c, ev ≠ .rx c)
    (hn : nAcks e ≤ (segInfo e.emitted).length) (hi : CI e) : CI (step e ev).1 :=
  (step_inv_nonrx (P := fun e => nAcks e ≤ (segInfo e.emitted).length ∧ CI e)
    (fun _ _ _ t hk h => ⟨nAcks_le_tr t hk h.1, ci_tr t hk (fun _ => h.1) h.2⟩) e ev hne ⟨hn, hi⟩).2

theorem ci_init (cfg : Cfg) : CI { cfg := cfg } := ⟨by intro x hx; simp [Pending, segInfo] at hx, rfl⟩

end Tcpcl
end DtnVerif
