import DtnVerif.Model.Reasm
import DtnVerif.Lemmas.Cover
import DtnVerif.Lemmas.Frag
namespace DtnVerif
namespace Reasm
open Bp Frag Cover

def hasKey (k : Key) (b : FBundle) : Bool := decide (keyOf b.primary = k)

structure Proj where
  entry : Option Entry
  seen : Option (Nat × Option Nat) → Bool
  pending : List FBundle
  delivered : List FBundle

def proj (k : Key) (s : AState) : Proj :=
  ⟨s.table k, fun f => s.seen ⟨k, f⟩, s.pending.filter (hasKey k), s.delivered.filter (hasKey k)⟩

def TableWf (t : Table) : Prop := ∀ k e f, t k = some e → e.first = some f → keyOf f.primary = k

theorem tableWf_init : TableWf AState.init.table := by
  intro k e f h; simp [AState.init] at h

@[simp] theorem norm_primary (b : FBundle) : (norm b).primary = b.primary := rfl
@[simp] theorem keyOf_updPrimary (crcFn : Nat → Bytes → Bytes) (p : Primary) :
    keyOf (updPrimary crcFn p) = keyOf p := by
  rw [updPrimary_eq]; rfl

/-- `rw [synth_primary]` reduces the projection of any field but the flags and the CRC value -/
theorem synth_primary (crcFn : Nat → Bytes → Bytes) (f : FBundle) (d : Bytes) :
    (synth crcFn f d).primary = { f.primary with flags := clearFragFlag f.primary.flags,
                                                 crc := (synth crcFn f d).primary.crc } := by
  rw [synth, updPrimary_eq]

@[simp] theorem keyOf_synth (crcFn : Nat → Bytes → Bytes) (f : FBundle) (d : Bytes) :
    keyOf (synth crcFn f d).primary = keyOf f.primary := by
  rw [synth_primary]; rfl

theorem entryOf_first (k : Key) (cur : Option Entry) (b : FBundle) (hb : keyOf b.primary = k)
    (hw : ∀ e f, cur = some e → e.first = some f → keyOf f.primary = k) :
    ∀ f, (entryOf cur b).first = some f → keyOf f.primary = k := by
  intro f hf
  unfold entryOf at hf
  simp only [] at hf
  split at hf
  · simp at hf; subst hf; exact hb
  · cases cur with
    | none => simp at hf
    | some e => exact hw e f rfl hf

theorem reasmEntry_first (crcFn : Nat → Bytes → Bytes) (cur : Option Entry) (b : FBundle) :
    (∀ e, (reasmEntry crcFn cur b).1 = some e → e.first = (entryOf cur b).first) ∧
    (∀ rb, (reasmEntry crcFn cur b).2 = .cleared (some rb) →
      ∃ f d, (entryOf cur b).first = some f ∧ rb = synth crcFn f d) := by
  unfold reasmEntry
  split
  · exact ⟨fun e he => Option.some.inj he ▸ rfl, fun _ h => by cases h⟩
  · rename_i d _
    have hE : (inject (entryOf cur b) b.primary.fragOff d).first = (entryOf cur b).first := rfl
    generalize inject (entryOf cur b) b.primary.fragOff d = E at hE
    unfold finish
    split
    · split
      · exact ⟨fun _ h => (by cases h), fun _ h => by cases h⟩
      · split
        · exact ⟨fun _ h => (by cases h), fun rb hr => by cases hr; exact ⟨_, _, hE ▸ ‹_›, rfl⟩⟩
        · exact ⟨fun _ h => (by cases h), fun _ h => by cases h⟩
    · exact ⟨fun e he => Option.some.inj he ▸ hE, fun _ h => by cases h⟩

theorem reasmEntry_first_key (crcFn : Nat → Bytes → Bytes) (k : Key) (cur : Option Entry) (b : FBundle)
    (hb : keyOf b.primary = k)
    (hw : ∀ e f, cur = some e → e.first = some f → keyOf f.primary = k) :
    (∀ e f, (reasmEntry crcFn cur b).1 = some e → e.first = some f → keyOf f.primary = k) ∧
    (∀ rb, (reasmEntry crcFn cur b).2 = .cleared (some rb) → keyOf rb.primary = k) := by
  have h1 := entryOf_first k cur b hb hw
  obtain ⟨h2, h3⟩ := reasmEntry_first crcFn cur b
  refine ⟨fun e f he hf => h1 f (h2 e he ▸ hf), fun rb hr => ?_⟩
  obtain ⟨f, d, hf, rfl⟩ := h3 rb hr
  rw [keyOf_synth]; exact h1 f hf

theorem reassemble_frame (crcFn : Nat → Bytes → Bytes) (t : Table) (b : FBundle) (k : Key)
    (h : keyOf b.primary ≠ k) : (reassemble crcFn t b).1 k = t k := by
  simp [reassemble, Ne.symm h]

theorem reassemble_wf (crcFn : Nat → Bytes → Bytes) (t : Table) (b : FBundle) (hw : TableWf t) :
    TableWf (reassemble crcFn t b).1 := by
  intro k e f he hf
  by_cases hk : k = keyOf b.primary
  · subst hk
    simp only [reassemble, if_true] at he
    exact (reasmEntry_first_key crcFn _ (t (keyOf b.primary)) b rfl (hw _)).1 e f he hf
  · simp only [reassemble, hk, if_false] at he
    exact hw k e f he hf

def reinjOf : RRes → List FBundle
  | .cleared (some rb) => [rb]
  | _ => []

theorem reinjOf_key {crcFn : Nat → Bytes → Bytes} {t : Table} {b rb : FBundle} (hw : TableWf t)
    (h : rb ∈ reinjOf (reassemble crcFn t b).2) : keyOf rb.primary = keyOf b.primary := by
  unfold reinjOf at h
  split at h
  · rename_i hr
    cases List.mem_singleton.1 h
    exact (reasmEntry_first_key crcFn _ (t (keyOf b.primary)) b rfl (hw _)).2 _ hr
  · cases h

theorem recvBundle_eq (cfg : RCfg) (s : AState) (b0 : FBundle) :
    recvBundle cfg s b0 =
      if numsOk b0 = true ∧ cfg.crcOk (norm b0) = true ∧ (b0.primary.src == cfg.nodeId) = false ∧
          s.seen (identOf (norm b0)) = false then
        { table := if cfg.deliver b0.primary.dest && isFragment b0.primary.flags
            then (reassemble cfg.crcFn s.table (norm b0)).1 else s.table,
          seen := fun i => i == identOf (norm b0) || s.seen i,
          pending := s.pending ++ (if cfg.deliver b0.primary.dest && isFragment b0.primary.flags
            then reinjOf (reassemble cfg.crcFn s.table (norm b0)).2 else []),
          delivered := s.delivered ++
            (if cfg.deliver b0.primary.dest && !isFragment b0.primary.flags then [norm b0] else []) }
      else s := by
  cases h1 : numsOk b0 <;> cases h2 : cfg.crcOk (norm b0) <;>
    cases h3 : (b0.primary.src == cfg.nodeId) <;> cases h4 : s.seen (identOf (norm b0)) <;>
    cases h5 : cfg.deliver b0.primary.dest <;> cases h6 : isFragment b0.primary.flags <;>
    simp [recvBundle, h1, h2, h3, h4, h5, h6]
  split <;> simp [reinjOf, *]

theorem recv_wf (cfg : RCfg) (s : AState) (b : FBundle) (hw : TableWf s.table) :
    TableWf (recvBundle cfg s b).table := by
  rw [recvBundle_eq]
  split
  · simp only []
    split
    · exact reassemble_wf _ _ _ hw
    · exact hw
  · exact hw

theorem recv_frame (cfg : RCfg) (s : AState) (b : FBundle) (k : Key) (hw : TableWf s.table)
    (hk : keyOf b.primary ≠ k) : proj k (recvBundle cfg s b) = proj k s := by
  have hid : ∀ f, (({ key := k, frag := f } : Ident) == identOf (norm b)) = false := fun f =>
    beq_eq_false_iff_ne.2 fun e => hk (congrArg Ident.key e).symm
  have hkb : hasKey k (norm b) = false := by simp [hasKey, hk]
  have hrj : (reinjOf (reassemble cfg.crcFn s.table (norm b)).2).filter (hasKey k) = [] :=
    List.filter_eq_nil_iff.2 fun rb hrb => by simp [hasKey, reinjOf_key hw hrb, hk]
  rw [recvBundle_eq]
  split
  · cases cfg.deliver b.primary.dest <;> cases isFragment b.primary.flags <;>
      simp [proj, hid, hkb, hrj, reassemble_frame cfg.crcFn s.table (norm b) k hk]
  · rfl

theorem filter_eraseIdx_of_not {α : Type} (p : α → Bool) (l : List α) (j : Nat) (x : α)
    (h : l[j]? = some x) (hp : p x = false) : (l.eraseIdx j).filter p = l.filter p := by
  induction l generalizing j with
  | nil => simp at h
  | cons a as ih =>
    cases j with
    | zero => simp at h; subst h; simp [hp]
    | succ j =>
      simp at h
      simp [List.filter_cons, ih j h]

theorem length_filter_eraseIdx {α : Type} (p : α → Bool) (l : List α) (j : Nat) (x : α)
    (h : l[j]? = some x) (hp : p x = true) :
    ((l.eraseIdx j).filter p).length + 1 = (l.filter p).length := by
  induction l generalizing j with
  | nil => simp at h
  | cons a as ih =>
    cases j with
    | zero => simp at h; subst h; simp [hp]
    | succ j =>
      simp at h
      have := ih j h
      simp only [List.eraseIdx_cons_succ, List.filter_cons]
      split
      · simp only [List.length_cons]; omega
      · exact this

def evKeyIs (k : Key) (s : AState) : Ev → Bool
  | .recv b => hasKey k b
  | .idle j => match s.pending[j]? with
    | some rb => hasKey k rb
    | none => false

theorem step_wf (cfg : RCfg) (s : AState) (ev : Ev) (hw : TableWf s.table) : TableWf (step cfg s ev).table := by
  cases ev with
  | recv b => exact recv_wf cfg s b hw
  | idle j =>
    simp only [step]
    split
    · exact hw
    · exact recv_wf cfg _ _ hw

theorem step_frame (cfg : RCfg) (s : AState) (ev : Ev) (k : Key) (hw : TableWf s.table)
    (hk : evKeyIs k s ev = false) : proj k (step cfg s ev) = proj k s := by
  cases ev with
  | recv b =>
    simp only [evKeyIs, hasKey, decide_eq_false_iff_not] at hk
    exact recv_frame cfg s b k hw hk
  | idle j =>
    simp only [step]
    cases hj : s.pending[j]? with
    | none => rfl
    | some rb =>
      simp only [evKeyIs, hj] at hk
      have hk' : keyOf rb.primary ≠ k := by simpa [hasKey] using hk
      show proj k (recvBundle cfg { s with pending := s.pending.eraseIdx j } rb) = proj k s
      rw [recv_frame cfg { s with pending := s.pending.eraseIdx j } rb k hw hk']
      simp [proj, filter_eraseIdx_of_not _ _ _ _ hj hk]

def fragId (b : FBundle) : Option (Nat × Option Nat) :=
  some (b.primary.fragOff, (norm b).payload.map List.length)

def recvProj (crcFn : Nat → Bytes → Bytes) (pj : Proj) (b : FBundle) : Proj :=
  if pj.seen (fragId b) then pj
  else
    let r := reasmEntry crcFn pj.entry (norm b)
    { entry := r.1, seen := fun f => f == fragId b || pj.seen f,
      pending := pj.pending ++ reinjOf r.2, delivered := pj.delivered }

theorem ident_beq_frag (k : Key) (f g : Option (Nat × Option Nat)) :
    (({ key := k, frag := f } : Ident) == (⟨k, g⟩ : Ident)) = (f == g) := by
  by_cases e : f = g
  · subst e; simp
  · have : ({ key := k, frag := f } : Ident) ≠ ⟨k, g⟩ := by
      intro h; exact e (congrArg Ident.frag h)
    rw [beq_eq_false_iff_ne.2 this, beq_eq_false_iff_ne.2 e]

theorem proj_recv_key (cfg : RCfg) (s : AState) (b : FBundle) (k : Key) (hw : TableWf s.table)
    (hk : keyOf b.primary = k) (hn : numsOk b = true) (hc : cfg.crcOk (norm b) = true)
    (hs : (b.primary.src == cfg.nodeId) = false) (hd : cfg.deliver b.primary.dest = true)
    (hf : isFragment b.primary.flags = true) :
    proj k (recvBundle cfg s b) = recvProj cfg.crcFn (proj k s) b := by
  subst hk
  have hid : identOf (norm b) = ⟨keyOf b.primary, fragId b⟩ := by
    simp [identOf, hf, fragId]
  have hrj : ∀ rb ∈ reinjOf (reasmEntry cfg.crcFn (s.table (keyOf b.primary)) (norm b)).2,
      hasKey (keyOf b.primary) rb = true :=
    fun rb hrb => by simp [hasKey, reinjOf_key (b := norm b) hw hrb]
  rw [recvBundle_eq, recvProj]
  cases hsn : s.seen ⟨keyOf b.primary, fragId b⟩
  · simpa [proj, hn, hc, hs, hd, hf, hid, hsn, reassemble, ident_beq_frag] using hrj
  · simp [proj, hn, hc, hs, hid, hsn]

theorem isFragment_clearFragFlag (f : Nat) : isFragment (clearFragFlag f) = false := by
  unfold clearFragFlag
  split
  · rename_i h; simp only [isFragment] at *; simp at h ⊢; omega
  · rename_i h; simpa using h

theorem numsOk_synth (crcFn : Nat → Bytes → Bytes) (f : FBundle) (d : Bytes) :
    numsOk (synth crcFn f d) = numsOk f := by
  apply numsOk_congr
  simp only [synth, norm]
  rw [nums_map _ (fun x => by split <;> rfl), nums_map _ ensure_num]

theorem proj_idle_key (cfg : RCfg) (s : AState) (j : Nat) (rb : FBundle) (k : Key)
    (hj : s.pending[j]? = some rb) (hk : keyOf rb.primary = k) (hn : numsOk rb = true)
    (hc : cfg.crcOk (norm rb) = true) (hs : (rb.primary.src == cfg.nodeId) = false)
    (hd : cfg.deliver rb.primary.dest = true) (hf : isFragment rb.primary.flags = false) :
    proj k (step cfg s (.idle j)) =
      if (proj k s).seen none then
        { (proj k s) with pending := (s.pending.eraseIdx j).filter (hasKey k) }
      else
        { entry := (proj k s).entry, seen := fun f => f == none || (proj k s).seen f,
          pending := (s.pending.eraseIdx j).filter (hasKey k),
          delivered := (proj k s).delivered ++ [norm rb] } := by
  have hid : identOf (norm rb) = ⟨k, none⟩ := by simp [identOf, hf, hk]
  have hkb : hasKey k (norm rb) = true := by simp [hasKey, hk]
  simp only [step, hj]
  rw [recvBundle_eq]
  cases hsn : s.seen ⟨k, none⟩ <;> simp [proj, hn, hc, hs, hd, hf, hid, hsn, hkb, ident_beq_frag]

def rangeOf (b : FBundle) : Range := (b.primary.fragOff, ((norm b).payload.getD []).length)

/-- `b` is a fragment of the bundle with key `k` and payload `P` that passes the gates of
    `recv_bundle` (block numbers, CRC, not our own, routed to deliver).
    `synthOk`: the bundle synthesised from an offset-0 fragment passes the CRC gate when re-injected
    (its primary CRC has just been recomputed, its payload block has CRC none, the other blocks are
    copies of blocks that passed the gate). -/
structure ConsFrag (cfg : RCfg) (k : Key) (P : Bytes) (b : FBundle) : Prop where
  key : keyOf b.primary = k
  frag : isFragment b.primary.flags = true
  total : b.primary.totalLen = P.length
  nums : numsOk b = true
  crc : cfg.crcOk (norm b) = true
  src : (b.primary.src == cfg.nodeId) = false
  dlv : cfg.deliver b.primary.dest = true
  data : ∃ d, (norm b).payload = some d ∧ b.primary.fragOff + d.length ≤ P.length ∧
    d = (P.drop b.primary.fragOff).take d.length
  synthOk : b.primary.fragOff = 0 → cfg.crcOk (norm (synth cfg.crcFn (norm b) P)) = true

theorem rangeOf_of_fragId {b b' : FBundle} (h : fragId b = fragId b') : rangeOf b = rangeOf b' := by
  simp only [fragId, Option.some.injEq, Prod.mk.injEq] at h
  simp only [rangeOf, h.1]
  cases h1 : (norm b).payload <;> cases h2 : (norm b').payload <;> simp_all

def Synth (cfg : RCfg) (P : Bytes) (fr : List FBundle) (rb : FBundle) : Prop :=
  ∃ f0 ∈ fr, f0.primary.fragOff = 0 ∧ rb = synth cfg.crcFn (norm f0) P

theorem Synth.mono {cfg : RCfg} {P : Bytes} {fr fr' : List FBundle} {rb : FBundle} (hs : fr ⊆ fr')
    (h : Synth cfg P fr rb) : Synth cfg P fr' rb := by
  obtain ⟨f0, h1, h2, h3⟩ := h
  exact ⟨f0, hs h1, h2, h3⟩

structure EntryG (P : Bytes) (fr : List FBundle) (e : Entry) : Prop where
  total : e.total = P.length
  len : e.data.length = P.length
  agree : ∀ i, coveredAt e.ranges i → e.data[i]? = P[i]?
  sub : ∀ r ∈ e.ranges, r ∈ fr.map rangeOf
  first : ∀ f, e.first = some f → ∃ f0 ∈ fr, f0.primary.fragOff = 0 ∧ f = norm f0
  zero : (∃ r ∈ e.ranges, r.1 = 0) → e.first ≠ none

theorem EntryG.mono {P : Bytes} {fr fr' : List FBundle} {e : Entry} (hs : fr ⊆ fr') (h : EntryG P fr e) :
    EntryG P fr' e := by
  refine ⟨h.total, h.len, h.agree, fun r hr => List.map_subset _ hs (h.sub r hr), ?_, h.zero⟩
  intro f hf
  obtain ⟨f0, h1, h2, h3⟩ := h.first f hf
  exact ⟨f0, hs h1, h2, h3⟩

theorem entryOf_G (cfg : RCfg) (k : Key) (P : Bytes) (fr : List FBundle) (cur : Option Entry) (b : FBundle)
    (hb : ConsFrag cfg k P b) (hcur : ∀ e, cur = some e → EntryG P fr e) :
    EntryG P (fr ++ [b]) (entryOf cur (norm b)) ∧
      (b.primary.fragOff = 0 → (entryOf cur (norm b)).first ≠ none) ∧
      (entryOf cur (norm b)).ranges = (cur.map (fun e => e.ranges)).getD [] := by
  have hbm : b ∈ fr ++ [b] := by simp
  -- the entry found or created, before `first` is set
  have h0 : EntryG P (fr ++ [b])
        (cur.getD ⟨(norm b).primary.totalLen, none, [], zeros (norm b).primary.totalLen⟩) ∧
      (cur.getD ⟨(norm b).primary.totalLen, none, [], zeros (norm b).primary.totalLen⟩).ranges
        = (cur.map (fun e => e.ranges)).getD [] := by
    cases hc : cur with
    | none =>
      exact ⟨⟨hb.total, by simp [zeros, hb.total], fun i ⟨r, hr, _⟩ => (by cases hr),
        fun r hr => (by cases hr), fun f hf => (by cases hf), fun ⟨r, hr, _⟩ => (by cases hr)⟩, rfl⟩
    | some e => exact ⟨(hcur e hc).mono (List.subset_append_left fr [b]), rfl⟩
  unfold entryOf
  generalize cur.getD _ = e0 at h0 ⊢
  obtain ⟨hG, hr⟩ := h0
  by_cases hoff : ((norm b).primary.fragOff == 0) = true
  · rw [if_pos hoff]
    exact ⟨⟨hG.total, hG.len, hG.agree, hG.sub,
      fun f hf => ⟨b, hbm, by simpa using hoff, (Option.some.inj hf).symm⟩, fun _ => (by simp)⟩,
      fun _ => (by simp), hr⟩
  · rw [if_neg hoff]
    exact ⟨hG, fun h => absurd (by simp [h]) hoff, hr⟩

theorem inject_G (P : Bytes) (fr : List FBundle) (e : Entry) (b : FBundle) (d : Bytes)
    (he : EntryG P (fr ++ [b]) e) (h0 : b.primary.fragOff = 0 → e.first ≠ none)
    (hd : (norm b).payload = some d)
    (hle : b.primary.fragOff + d.length ≤ P.length) (hdP : d = (P.drop b.primary.fragOff).take d.length) :
    EntryG P (fr ++ [b]) (inject e b.primary.fragOff d) := by
  have hr : rangeOf b = (b.primary.fragOff, d.length) := by simp [rangeOf, hd]
  refine ⟨he.total, ?_, ?_, ?_, he.first, ?_⟩
  · show (splice e.data b.primary.fragOff d).length = P.length
    rw [splice_length _ _ _ (by rw [he.len]; exact hle), he.len]
  · intro i hi
    refine splice_agree _ _ _ _ _ (by rw [he.len]; exact hle) hdP fun hin => he.agree i ?_
    obtain ⟨r, hr', h1, h2⟩ := hi
    rcases List.mem_cons.1 hr' with e' | e'
    · subst e'; exact absurd ⟨h1, h2⟩ hin
    · exact ⟨r, e', h1, h2⟩
  · intro r hr'
    rcases List.mem_cons.1 hr' with e' | e'
    · rw [e', ← hr]; exact List.mem_map.2 ⟨b, by simp, rfl⟩
    · exact he.sub r e'
  · rintro ⟨r, hr', hz⟩
    rcases List.mem_cons.1 hr' with e' | e'
    · rw [e'] at hz; exact h0 hz
    · exact he.zero ⟨r, e', hz⟩

theorem data_eq_of_covered (P : Bytes) (fr : List FBundle) (e : Entry) (he : EntryG P fr e)
    (hx : covered e.ranges P.length) : e.data = P :=
  ext_of_agree he.len fun i hi => he.agree i (hx i hi)

theorem payloadBlk_isSome_of_payload {b : FBundle} {d : Bytes} (h : b.payload = some d) :
    (payloadBlk b.blocks).isSome = true := by
  obtain ⟨pb, hpb, _⟩ := payload_eq_some.1 h
  rw [hpb]; rfl

structure Inv (cfg : RCfg) (P : Bytes) (fr : List FBundle) (pj : Proj) : Prop where
  seenFrag : ∀ x, pj.seen (some x) = true ↔ ∃ b ∈ fr, fragId b = some x
  entry : ∀ e, pj.entry = some e → EntryG P fr e ∧ ¬ exact e.ranges P.length
  pend : ∀ rb ∈ pj.pending, Synth cfg P fr rb
  del : pj.delivered = [] ∨ ∃ rb, Synth cfg P fr rb ∧ pj.delivered = [norm rb]
  seenNone : pj.seen none = true ↔ pj.delivered ≠ []
  early : (pj.pending ≠ [] ∨ pj.delivered ≠ []) → covered (fr.map rangeOf) P.length
  fresh : pj.pending = [] → pj.delivered = [] →
    (fr = [] ∧ pj.entry = none) ∨ ∃ e, pj.entry = some e ∧ ∀ r, r ∈ fr.map rangeOf → r ∈ e.ranges

theorem inv_init (cfg : RCfg) (P : Bytes) (k : Key) : Inv cfg P [] (proj k AState.init) := by
  refine ⟨?_, ?_, ?_, Or.inl rfl, ?_, ?_, fun _ _ => Or.inl ⟨rfl, rfl⟩⟩
  · intro x; simp [proj, AState.init]
  · intro e he; simp [proj, AState.init] at he
  · intro rb hrb; simp [proj, AState.init] at hrb
  · simp [proj, AState.init]
  · intro h; simp [proj, AState.init] at h

theorem finish_not_exact (crcFn : Nat → Bytes → Bytes) (e : Entry) (h : exactB e.ranges e.total = false) :
    finish crcFn e = (some e, .cleared none) := by
  simp [finish, h]

theorem finish_exact (crcFn : Nat → Bytes → Bytes) (e : Entry) (f : FBundle)
    (h : exactB e.ranges e.total = true) (hf : e.first = some f)
    (hp : (payloadBlk f.blocks).isSome = true) :
    finish crcFn e = (none, .cleared (some (synth crcFn f e.data))) := by
  simp [finish, h, hf, hp]

private theorem del_mono {cfg : RCfg} {P : Bytes} {fr fr' : List FBundle} {dl : List FBundle}
    (hs : fr ⊆ fr') (h : dl = [] ∨ ∃ rb, Synth cfg P fr rb ∧ dl = [norm rb]) :
    dl = [] ∨ ∃ rb, Synth cfg P fr' rb ∧ dl = [norm rb] :=
  h.imp_right fun ⟨rb, h1, h2⟩ => ⟨rb, h1.mono hs, h2⟩

theorem Inv.dup {cfg : RCfg} {P : Bytes} {fr : List FBundle} {pj : Proj} {b b' : FBundle}
    (hI : Inv cfg P fr pj) (hb' : b' ∈ fr) (hid : fragId b' = fragId b) : Inv cfg P (fr ++ [b]) pj := by
  have hs : fr ⊆ fr ++ [b] := List.subset_append_left _ _
  have hrr : rangeOf b' = rangeOf b := rangeOf_of_fragId hid
  refine ⟨?_, fun e he => ⟨(hI.entry e he).1.mono hs, (hI.entry e he).2⟩,
    fun rb h => (hI.pend rb h).mono hs, del_mono hs hI.del, hI.seenNone,
    fun h => covered_mono (fun r hr => List.map_subset _ hs hr) _ (hI.early h), ?_⟩
  · intro x
    rw [hI.seenFrag x]
    constructor
    · rintro ⟨b2, h2, h3⟩; exact ⟨b2, hs h2, h3⟩
    · rintro ⟨b2, h2, h3⟩
      rcases List.mem_append.1 h2 with h | h
      · exact ⟨b2, h, h3⟩
      · cases List.mem_singleton.1 h; exact ⟨b', hb', hid.trans h3⟩
  · intro hp hdl
    rcases hI.fresh hp hdl with ⟨h1, _⟩ | ⟨e, he, hsup⟩
    · subst h1; cases hb'
    · refine .inr ⟨e, he, fun r hr => ?_⟩
      rcases List.mem_append.1 (List.map_append ▸ hr) with h | h
      · exact hsup r h
      · rw [List.mem_singleton.1 h, ← hrr]; exact hsup _ (List.mem_map_of_mem hb')

theorem Inv.recv {cfg : RCfg} {P : Bytes} {fr : List FBundle} {pj : Proj} (hI : Inv cfg P fr pj)
    (b : FBundle) {ent : Option Entry} {rj : List FBundle}
    (hent : ∀ e, ent = some e → EntryG P (fr ++ [b]) e ∧ ¬ exact e.ranges P.length)
    (hrj : ∀ rb ∈ rj, Synth cfg P (fr ++ [b]) rb ∧ covered ((fr ++ [b]).map rangeOf) P.length)
    (hfresh : rj = [] → pj.pending = [] → pj.delivered = [] →
      ∃ e, ent = some e ∧ ∀ r, r ∈ (fr ++ [b]).map rangeOf → r ∈ e.ranges) :
    Inv cfg P (fr ++ [b])
      ⟨ent, fun f => f == fragId b || pj.seen f, pj.pending ++ rj, pj.delivered⟩ := by
  have hs : fr ⊆ fr ++ [b] := List.subset_append_left _ _
  have hsn : ((none : Option (Nat × Option Nat)) == fragId b) = false := rfl
  refine ⟨fun x => ?_, hent, ?_, del_mono hs hI.del, ?_, ?_, ?_⟩
  · simp only [Bool.or_eq_true, beq_iff_eq, hI.seenFrag x]
    constructor
    · rintro (h | ⟨b', hb', h⟩)
      · exact ⟨b, by simp, h.symm⟩
      · exact ⟨b', hs hb', h⟩
    · rintro ⟨b2, hb2, h⟩
      rcases List.mem_append.1 hb2 with h' | h'
      · exact Or.inr ⟨b2, h', h⟩
      · cases List.mem_singleton.1 h'; exact Or.inl h.symm
  · intro rb h
    rcases List.mem_append.1 h with h | h
    · exact (hI.pend rb h).mono hs
    · exact (hrj rb h).1
  · simp only [hsn, Bool.false_or]; exact hI.seenNone
  · intro h
    cases rj with
    | nil => exact covered_mono (fun r hr => List.map_subset _ hs hr) _ (hI.early (by simpa using h))
    | cons rb _ => exact (hrj rb List.mem_cons_self).2
  · intro hp hdl
    obtain ⟨h1, h2⟩ := List.append_eq_nil_iff.1 hp
    exact .inr (hfresh h2 h1 hdl)

theorem inv_step (cfg : RCfg) (k : Key) (P : Bytes) (fr : List FBundle) (pj : Proj) (b : FBundle)
    (hI : Inv cfg P fr pj) (hb : ConsFrag cfg k P b) (hall : ∀ b' ∈ fr, ConsFrag cfg k P b') :
    Inv cfg P (fr ++ [b]) (recvProj cfg.crcFn pj b) := by
  obtain ⟨d, hd, hle, hdP⟩ := hb.data
  have hrb : rangeOf b = (b.primary.fragOff, d.length) := by simp [rangeOf, hd]
  unfold recvProj
  by_cases hseen : pj.seen (fragId b) = true
  · rw [if_pos hseen]
    obtain ⟨b', hb', hid'⟩ := (hI.seenFrag _).1 hseen
    exact hI.dup hb' hid'
  · obtain ⟨hG1, hz1, hr1⟩ := entryOf_G cfg k P fr pj.entry b hb (fun e he => (hI.entry e he).1)
    have hG2 := inject_G P fr _ b d hG1 hz1 hd hle hdP
    have hEr : (inject (entryOf pj.entry (norm b)) b.primary.fragOff d).ranges
        = rangeOf b :: (pj.entry.map (fun e => e.ranges)).getD [] := by rw [hrb, ← hr1]; rfl
    rw [if_neg hseen, show reasmEntry cfg.crcFn pj.entry (norm b)
      = finish cfg.crcFn (inject (entryOf pj.entry (norm b)) b.primary.fragOff d) by
        simp [reasmEntry, hd]]
    generalize inject (entryOf pj.entry (norm b)) b.primary.fragOff d = E at hG2 hEr ⊢
    cases hx : exactB E.ranges E.total
    · rw [finish_not_exact _ _ hx]
      refine hI.recv b (fun e he => ?_) (fun rb h => (by cases h))
        (fun _ hp hdl => ⟨E, rfl, fun r hr => ?_⟩)
      · cases he
        refine ⟨hG2, fun hex => ?_⟩
        rw [← hG2.total, ← exactB_iff, hx] at hex
        cases hex
      · rw [hEr]
        rcases List.mem_append.1 (List.map_append ▸ hr) with h | h
        · rcases hI.fresh hp hdl with ⟨h1, _⟩ | ⟨e, he, hsup⟩
          · subst h1; cases h
          · rw [he]; exact List.mem_cons_of_mem _ (hsup r h)
        · rw [List.mem_singleton.1 h]; exact List.mem_cons_self
    · have hex : exact E.ranges P.length := by rw [← hG2.total]; exact (exactB_iff _ _).1 hx
      -- an offset-0 range was spliced in, so the first fragment is known
      have hz : ∃ r ∈ E.ranges, r.1 = 0 := by
        by_cases hP : 0 < P.length
        · obtain ⟨r, hr', h1, _⟩ := hex.1 0 hP
          exact ⟨r, hr', by omega⟩
        · exact ⟨rangeOf b, by rw [hEr]; exact List.mem_cons_self, by rw [hrb]; simp; omega⟩
      cases hf : E.first with
      | none => exact absurd hf (hG2.zero hz)
      | some f =>
        obtain ⟨f0, hf0m, hf00, hff⟩ := hG2.first f hf
        have hcf0 : ConsFrag cfg k P f0 := by
          rcases List.mem_append.1 hf0m with h | h
          · exact hall f0 h
          · cases List.mem_singleton.1 h; exact hb
        obtain ⟨d0, hd0, _, _⟩ := hcf0.data
        rw [finish_exact _ _ f hx hf (by rw [hff]; exact payloadBlk_isSome_of_payload hd0),
          data_eq_of_covered P _ _ hG2 hex.1]
        refine hI.recv b (fun e he => (by cases he)) (fun rb h => ?_) (fun h => (by cases h))
        cases List.mem_singleton.1 h
        exact ⟨⟨f0, hf0m, hf00, by rw [hff]⟩, covered_mono hG2.sub _ hex.1⟩

def kfrags (k : Key) : List Ev → List FBundle
  | [] => []
  | .recv b :: es => if hasKey k b then b :: kfrags k es else kfrags k es
  | .idle _ :: es => kfrags k es

theorem idle_key_step (cfg : RCfg) (k : Key) (P : Bytes) (fr : List FBundle) (s : AState) (j : Nat)
    (rb : FBundle) (hj : s.pending[j]? = some rb) (hk : hasKey k rb = true)
    (hall : ∀ b ∈ fr, ConsFrag cfg k P b) (hI : Inv cfg P fr (proj k s)) :
    Inv cfg P fr (proj k (step cfg s (.idle j))) := by
  have hmem : rb ∈ (proj k s).pending := by
    simp only [proj, List.mem_filter]
    exact ⟨List.mem_of_getElem? hj, hk⟩
  obtain ⟨f0, hf0m, hf00, hrb⟩ := hI.pend rb hmem
  have hc := hall f0 hf0m
  have hkey : keyOf rb.primary = k := by rw [hrb, keyOf_synth]; exact hc.key
  have hnum : numsOk rb = true := by
    rw [hrb, numsOk_synth, numsOk_congr (norm f0) f0 (nums_map _ ensure_num _)]; exact hc.nums
  have hcrc : cfg.crcOk (norm rb) = true := by rw [hrb]; exact hc.synthOk hf00
  have hsrc : (rb.primary.src == cfg.nodeId) = false := by rw [hrb, synth_primary]; exact hc.src
  have hdl : cfg.deliver rb.primary.dest = true := by rw [hrb, synth_primary]; exact hc.dlv
  have hfl : isFragment rb.primary.flags = false := by
    rw [hrb, synth_primary]; exact isFragment_clearFragFlag _
  have hsub : ∀ x ∈ (s.pending.eraseIdx j).filter (hasKey k), Synth cfg P fr x :=
    fun x hx => hI.pend x (((List.eraseIdx_sublist _ j).filter _).subset hx)
  have hcov : covered (fr.map rangeOf) P.length :=
    hI.early (Or.inl (by intro h; rw [h] at hmem; simp at hmem))
  rw [proj_idle_key cfg s j rb k hj hkey hnum hcrc hsrc hdl hfl]
  split
  · -- a bundle of `k` was delivered before: this one is dropped as already seen
    rename_i hsn
    exact ⟨hI.seenFrag, hI.entry, hsub, hI.del, hI.seenNone, fun _ => hcov,
      fun _ h => absurd h (hI.seenNone.1 hsn)⟩
  · rename_i hsn
    have hdel : (proj k s).delivered = [] := Decidable.not_not.1 (mt hI.seenNone.2 hsn)
    refine ⟨?_, hI.entry, hsub, Or.inr ⟨rb, ⟨f0, hf0m, hf00, hrb⟩, by simp [hdel]⟩, by simp, fun _ => hcov,
      fun _ h => by simp at h⟩
    intro x
    have : ((some x : Option (Nat × Option Nat)) == none) = false := rfl
    simp only [this, Bool.false_or]
    exact hI.seenFrag x

theorem run_inv (cfg : RCfg) (k : Key) (P : Bytes) :
    ∀ (evs : List Ev) (s : AState) (fr : List FBundle), TableWf s.table → Inv cfg P fr (proj k s) →
      (∀ b ∈ fr ++ kfrags k evs, ConsFrag cfg k P b) →
      TableWf (run cfg s evs).table ∧ Inv cfg P (fr ++ kfrags k evs) (proj k (run cfg s evs)) := by
  intro evs
  induction evs with
  | nil => intro s fr hw hph _; simpa [run, kfrags] using ⟨hw, hph⟩
  | cons ev es ih =>
    intro s fr hw hph hall
    have hw' := step_wf cfg s ev hw
    show TableWf (run cfg (step cfg s ev) es).table ∧ Inv cfg P _ (proj k (run cfg (step cfg s ev) es))
    cases hk : evKeyIs k s ev
    · -- an event of another key, or an idle slot that is empty, leaves the projection alone
      have hkf : kfrags k (ev :: es) = kfrags k es := by
        cases ev with
        | recv b => simp [kfrags, show hasKey k b = false from hk]
        | idle j => rfl
      rw [hkf] at hall ⊢
      apply ih _ _ hw' _ hall
      rw [step_frame cfg s ev k hw hk]
      exact hph
    · cases ev with
      | recv b =>
        simp only [kfrags, show hasKey k b = true from hk, if_true] at hall ⊢
        rw [List.append_cons] at hall ⊢
        have hb : ConsFrag cfg k P b := hall b (by simp)
        apply ih _ _ hw' _ hall
        show Inv cfg P (fr ++ [b]) (proj k (recvBundle cfg s b))
        rw [proj_recv_key cfg s b k hw hb.key hb.nums hb.crc hb.src hb.dlv hb.frag]
        exact inv_step cfg k P fr _ b hph hb fun b' h => hall b' (by simp [h])
      | idle j =>
        apply ih _ _ hw' _ hall
        cases hj : s.pending[j]? with
        | none => simp [evKeyIs, hj] at hk
        | some rb =>
          exact idle_key_step cfg k P fr s j rb hj (by simpa [evKeyIs, hj] using hk)
            (fun b h => hall b (by simp [h])) hph

theorem synth_payload (crcFn : Nat → Bytes → Bytes) (f : FBundle) (d0 P : Bytes)
    (h : (norm f).payload = some d0) : (norm (synth crcFn (norm f) P)).payload = some P := by
  obtain ⟨pb, hpb, _⟩ := payload_eq_some.1 h
  have h1 := (payloadBlk_mem hpb).2
  simp only [FBundle.payload, norm, synth] at hpb ⊢
  rw [payloadBlk_map _ ensure_num, payloadBlk_map _ (fun x => by split <;> rfl),
    payloadBlk_map _ ensure_num, hpb]
  simp only [Option.map_some, Option.bind_some, ensure_num, h1, beq_self_eq_true, if_true]
  rw [ensure_btsd_some _ P rfl]

theorem filter_map_congr {α β : Type} (p : β → Bool) (h1 h2 : α → β) (bs : List α)
    (hp : ∀ x ∈ bs, p (h1 x) = p (h2 x)) (he : ∀ x ∈ bs, p (h2 x) = true → h1 x = h2 x) :
    (bs.map h1).filter p = (bs.map h2).filter p := by
  rw [List.filter_map, List.filter_map, List.filter_congr (p := p ∘ h1) (q := p ∘ h2) hp]
  exact List.map_congr_left fun x hx => he x (List.mem_filter.1 hx).1 (List.mem_filter.1 hx).2

theorem synth_ext_blocks (crcFn : Nat → Bytes → Bytes) (f : FBundle) (P : Bytes) :
    (norm (synth crcFn (norm f) P)).blocks.filter (fun x => x.c.blockNum != 1)
      = (norm f).blocks.filter (fun x => x.c.blockNum != 1) := by
  simp only [norm, synth, List.map_map]
  apply filter_map_congr
  · intro x _
    simp only [Function.comp]
    split <;> simp
  · intro x _ hx
    simp only [Function.comp]
    have hne : (x.ensure.c.blockNum == 1) = false := by
      simp only [ensure_num] at hx ⊢
      simpa using hx
    simp only [ensure_idem, hne, Bool.false_eq_true, if_false]


end Reasm
end DtnVerif
