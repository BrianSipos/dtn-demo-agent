/-
  Whole-run versions of the single-endpoint guarantees (induction over arbitrary event lists).
-/
import DtnVerif.Lemmas.TcpclTxStep
import DtnVerif.Lemmas.TcpclPump
import DtnVerif.Lemmas.TcpclAckSeqInv
namespace DtnVerif
namespace Tcpcl

theorem processed_prefix_run (evs : List Ev) (e : Ep) : e.processed <+: (runEp e evs).processed :=
  run_inv (P := fun x => e.processed <+: x.processed)
    (fun x ev h => h.trans (processed_prefix_step x ev)) evs e (List.prefix_refl _)

theorem timerInv_run (evs : List Ev) (e : Ep) (hi : TimerInv e) : TimerInv (runEp e evs) :=
  run_inv timerInv_step evs e hi

theorem ackSeq_run (evs : List Ev) (e : Ep) (hr : RxInv e) (hi : AckSeqInv e) : AckSeqInv (runEp e evs) :=
  (run_inv (P := fun e => RxInv e ∧ AckSeqInv e)
    (fun e ev h => ⟨rxInv_step e ev h.1, ackSeq_step e ev h.1 h.2⟩) evs e ⟨hr, hi⟩).2

theorem txInv_run (evs : List Ev) (e : Ep) (P : LState) (hi : TxInv e P) (htm : TimerInv e)
    (hsend : ∀ d, Ev.send d ∈ evs → d.length < 2 ^ 64)
    (hleg : (legalRun {} (runEp e evs).processed).isSome)
    (hok : ∀ m ∈ (runEp e evs).processed, okMsg m) :
    ∃ P', TxInv (runEp e evs) P' := by
  induction evs generalizing e P with
  | nil => exact ⟨P, hi⟩
  | cons ev evs ih =>
    rw [runEp_cons] at hleg hok ⊢
    have hpre := processed_prefix_run evs (step e ev).1
    obtain ⟨P1, h1⟩ := txInv_step e ev P hi htm
      (fun d hd => hsend d (by rw [hd]; simp))
      (legal_of_prefix hpre hleg)
      (fun m hm => hok m (hpre.subset hm))
    exact ih _ P1 h1 (timerInv_step e ev htm) (fun d hd => hsend d (by simp [hd])) hleg hok

def started (cfg : Cfg) : Ep := (step { cfg := cfg } .start).1

theorem txInv_started (cfg : Cfg) (h1 : 0 < cfg.segInit) (h2 : cfg.privExt = false) :
    TxInv (started cfg) {} := by
  unfold started step
  simp only [Bool.false_eq_true, if_false]
  unfold TxInv
  rw [txv_setState]
  -- the view right after `start()`: an active endpoint has emitted its contact header, nothing else
  have hv : (if (!cfg.passive) = true then sendContact { cfg := cfg, started := true } else { cfg := cfg, started := true }).txView
      = ⟨cfg, false, true, !cfg.passive, false, false, false, 0, 0, 0, [], 1, 0, [], none,
         if cfg.passive then [] else [.contact 0], [], none⟩ := by
    cases cfg.passive <;> rfl
  rw [hv]
  refine ⟨rfl, rfl, h1, h2, by cases cfg.passive <;> rfl, by cases cfg.passive <;> rfl, Nat.zero_le _, rfl,
    nofun, nofun, by simp, by simp, by simp, rfl, by simp, ⟨0, Nat.le_refl _, Nat.le_refl _, rfl, fun _ _ => rfl⟩,
    nofun, Nat.le_refl _, by cases cfg.passive <;> rfl, by cases cfg.passive <;> rfl, ?_⟩
  refine ⟨nofun, fun _ => ⟨rfl, ?_⟩, fun _ => rfl⟩
  cases cfg.passive
  · intro m hm; rw [List.mem_singleton.mp hm]; rfl
  · nofun

theorem timerInv_started (cfg : Cfg) : TimerInv (started cfg) :=
  timerInv_step _ _ (timerInv_init cfg)

theorem rxInv_started (cfg : Cfg) : RxInv (started cfg) := rxInv_step _ _ (rxInv_init cfg)

theorem pumpInv_started (cfg : Cfg) : PumpInv (started cfg) := pumpInv_step _ _ (pumpInv_init cfg)

end Tcpcl
end DtnVerif
