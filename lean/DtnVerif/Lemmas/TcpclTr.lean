/-
  An endpoint step as a chain of atomic transactions. `Tr k a b` lists the atomic state changes of
  `tcpcl/session.py` as the model performs them: field edits, the emission of one message (under the model's
  guard, where there is one), the reception of one message, recorded in `processed` in the transaction that
  acts on it; `k : Kind` says where the transaction can occur. `step_reach` walks the call tree of `step`:
  every step is a chain of transactions of the kinds its event admits, so a state predicate preserved by
  every transaction is preserved by `step` (`step_inv`), by one `cases` over `Tr` instead of a lemma per
  function of the model.

  The transactions say THAT these change, not how: the clock, the scheduling of idle and TX sources, the
  receive buffer, `state`, `sendSegSize`, and of an emitted segment everything but its transfer id and END
  flag. What counts sources or octets, relates the outputs of an operation to its effect, or holds only
  between whole calls of the model's functions keeps a walk of its own.

  An emission is stated with `Ep.sent`, `sendMessage` as one update of the state (`sendMessage_eq`), so a field
  of the post-state that the emission leaves alone is the field of `a` by `rfl`. A walk rewrites the model's
  `sendMessage`, `sendContact`, `sendInit`, `sendReject` into that form before it applies the constructor.
-/
import DtnVerif.Lemmas.TcpclOuts
namespace DtnVerif
namespace Tcpcl

/-- messages that are recorded and change nothing else by themselves (what `onContact` emits in answer
    to a contact header are transactions of their own) -/
def Msg.isPlain : Msg → Bool
  | .contact _ | .keepalive | .msgReject _ _ => true
  | _ => false

/-- where a transaction can occur: anywhere (`loc`, the endpoint's own actions), only when the keepalive
    timer fires (`ka`), only in the TX callback (`pump`), only in `_process_queue` (`pq`), only while a received
    message is handled (`msg`), only in `recv_raw` around the handling of the messages (`rx`) -/
inductive Kind where
  | loc | ka | pump | pq | msg | rx
  deriving DecidableEq

/-- a chain of kind `k₂` may contain transactions of kind `k₁` -/
def Kind.sub (k₁ k₂ : Kind) : Bool := k₁ == .loc || k₁ == k₂ || (k₁ == .msg && k₂ == .rx)

def Kind.recv (k : Kind) : Bool := k == .msg || k == .rx

theorem Kind.sub_msg_rx {k : Kind} (h : k.sub .msg = true) : k.sub .rx = true := by
  cases k <;> first | rfl | cases h

inductive Tr : Kind → Ep → Ep → Prop
  | now (e : Ep) (n : Nat) : Tr .loc e { e with now := n }
  | started (e : Ep) : Tr .loc e { e with started := true }
  | state (e : Ep) (s : String) : Tr .loc e { e with state := s }
  | pqSched (e : Ep) (b : Bool) (n : Nat) : Tr .loc e { e with pqPend := b, pqSources := n }
  | txSched (e : Ep) (w i : Bool) (n : Nat) : Tr .pump e { e with txWatch := w, txIdle := i, txSrc := n }
  | segSize (e : Ep) (n : Nat) : Tr .loc e { e with sendSegSize := n }
  | idleReset (e : Ep) : Tr .rx e (idleReset e)
  | idleOff (e : Ep) : Tr .loc e { e with idleDeadline := none }
  | rxFeed (e : Ep) (r : Rx) (b : Bytes) : Tr .rx e { e with rx := r, rxBytes := b }
  | rxMore (e : Ep) (b : Bool) : Tr .rx e { e with rxMore := b }
  | move (e : Ep) :
      Tr .pump e { e with txBuf := e.txBuf.drop chunkSize, connBuf := e.connBuf ++ e.txBuf.take chunkSize }
  | write (e : Ep) (n : Nat) : n ≤ chunkSize →
      Tr .pump e { e with connBuf := e.connBuf.drop n, accepted := e.accepted ++ (e.connBuf.take chunkSize).take n }
  | enqueue (e : Ep) (d : Bytes) :
      Tr .loc e { e with txNextId := e.txNextId + 1, txPendStart := e.txPendStart ++ [⟨e.txNextId, d⟩],
                             txMap := e.txMap ++ [e.txNextId], sendLog := e.sendLog ++ [⟨e.txNextId, d⟩] }
  | pop (e : Ep) (t : Nat) : Tr .loc e { e with rxMap := e.rxMap.filter (·.1 != t) }
  | inTerm (e : Ep) : e.inSess = true → e.inTerm = false → Tr .loc e { e with inTerm := true }
  | flush (e : Ep) : Tr .loc e (flushPendStart e).1
  | close (e : Ep) : e.closed = false →
      Tr .loc e { e with closed := true, kaDeadline := none, idleDeadline := none,
                             txWatch := false, txIdle := false, txSrc := 0 }
  | contact (e : Ep) : Tr .loc e { e.sent (.contact 0) with sentContact := true }
  | init (e : Ep) :
      Tr .loc e { e.sent (.sessInit e.cfg.keepalive e.cfg.segMru sizeMax e.cfg.nodeId (sessionExt e.cfg)) with
                  sentInit := true }
  | term (e : Ep) (f r : Nat) : e.inTerm = true → Tr .loc e (e.sent (.sessTerm f r))
  | kaFire (e : Ep) : e.kaDeadline.isSome = true → Tr .ka e ({ e with kaDeadline := none }.sent .keepalive)
  | txStart (e : Ep) (it : TxItem) (rest : List TxItem) :
      e.inSess = true → e.inTerm = false → e.txTmp = none → e.txPendStart = it :: rest →
      Tr .pq e { e with txPendStart := rest, txTmp := some (it, 0), nStarted := e.nStarted + 1 }
  | segEsc (e : Ep) (it : TxItem) (sent n : Nat) : e.txTmp = some (it, sent) → Tr .pq e { e with txTmp := some (it, n) }
  | segMid (e : Ep) (it : TxItem) (sent f : Nat) (x d : Bytes) (n : Nat) :
      e.txTmp = some (it, sent) → hasEnd f = false →
      Tr .pq e { e.sent (.xferSegment f it.tid x d) with txTmp := some (it, n) }
  | segEnd (e : Ep) (it : TxItem) (sent f : Nat) (x d : Bytes) :
      e.txTmp = some (it, sent) → hasEnd f = true →
      Tr .pq e { e.sent (.xferSegment f it.tid x d) with txTmp := none, txPendAck := e.txPendAck ++ [it.tid] }
  | proc (e : Ep) (m : Msg) : m.isPlain = true → Tr .msg e (e.proc m)
  | reject (e : Ep) (r : Nat) (m : Msg) : OutOfPlace e m → Tr .msg e ((e.proc m).sent (.msgReject m.type r))
  | merge (e : Ep) (p : PeerInit) (x : Bytes) :
      Tr .msg e (mergeSession { e.proc (.sessInit p.keepalive p.segMru p.xferMru p.node x) with
                                 peerInit := some p, inSess := true } p)
  | gotTerm (e : Ep) (f r : Nat) : e.inSess = true → e.inTerm = true →
      Tr .msg e { e.proc (.sessTerm f r) with gotTerm := true }
  | rxMid (e : Ep) (f t : Nat) (x d cur : Bytes) :
      e.inSess = true → (if hasStart f then cur = [] else e.rxTmp = some (t, cur)) → hasEnd f = false →
      Tr .msg e ({ e.proc (.xferSegment f t x d) with rxTmp := some (t, cur ++ d) }.sent
              (.xferAck f t (cur ++ d).length))
  | rxEnd (e : Ep) (f t : Nat) (x d cur : Bytes) :
      e.inSess = true → (if hasStart f then cur = [] else e.rxTmp = some (t, cur)) → hasEnd f = true →
      Tr .msg e { (e.proc (.xferSegment f t x d)).sent (.xferAck f t (cur ++ d).length) with
                   rxTmp := none, rxMap := rxMapSet e.rxMap t (cur ++ d), rxLog := e.rxLog ++ [(t, cur ++ d)] }
  | ackEnd (e : Ep) (f t l : Nat) :
      e.inSess = true → t ∈ e.txMap → t ∈ e.txPendAck → hasEnd f = true →
      Tr .msg e { e.proc (.xferAck f t l) with txPendAck := e.txPendAck.erase t, txMap := e.txMap.erase t,
                                                     successLog := e.successLog ++ [t] }
  | ackMid (e : Ep) (f t l : Nat) : e.inSess = true → t ∈ e.txMap → hasEnd f = false →
      Tr .msg e { e.proc (.xferAck f t l) with ackLen := (t, l) :: e.ackLen.filter (·.1 != t) }
  | refused (e : Ep) (r t : Nat) : e.inSess = true → t ∈ e.txMap →
      Tr .msg e { e.proc (.xferRefuse r t) with
                    txMap := e.txMap.erase t, txPendAck := e.txPendAck.erase t,
                    txPendStart := e.txPendStart.filter (·.tid != t),
                    txTmp := e.txTmp.filter (fun p => !(p.1.tid == t)) }

inductive Reach (k : Kind) : Ep → Ep → Prop
  | refl (e : Ep) : Reach k e e
  | step {a b c : Ep} {k' : Kind} : Reach k a b → Tr k' b c → k'.sub k = true → Reach k a c

theorem Reach.tail {k k' : Kind} {a b c : Ep} (h : Reach k a b) (t : Tr k' b c)
    (hs : k'.sub k = true := by first | rfl | assumption) : Reach k a c := .step h t hs

theorem Reach.single {k k' : Kind} {a b : Ep} (t : Tr k' a b)
    (hs : k'.sub k = true := by first | rfl | assumption) : Reach k a b := .step (.refl a) t hs

theorem Reach.trans {k : Kind} {a b c : Ep} (h1 : Reach k a b) (h2 : Reach k b c) : Reach k a c := by
  induction h2 with
  | refl => exact h1
  | step _ t hs ih => exact .step ih t hs

theorem Reach.inv {k : Kind} {P : Ep → Prop} (hP : ∀ k' a b, Tr k' a b → k'.sub k = true → P a → P b) {a b : Ep}
    (h : Reach k a b) (ha : P a) : P b := by
  induction h with
  | refl => exact ha
  | step _ t hs ih => exact hP _ _ _ t hs ih

theorem Reach.msg_rx {a b : Ep} (h : Reach .msg a b) : Reach .rx a b := by
  induction h with
  | refl => exact .refl _
  | step _ t hs ih => exact .step ih t (Kind.sub_msg_rx hs)

theorem reach_setState {k : Kind} (e : Ep) (s : String) : Reach k e (setState e s).1 := by
  unfold setState; split
  · exact .refl e
  · exact .single (.state e s)

theorem reach_pqTrigger {k : Kind} (e : Ep) : Reach k e (pqTrigger e) := by
  unfold pqTrigger; split
  · exact .refl e
  · exact .single (.pqSched e true (e.pqSources + 1))

theorem reach_doClose {k : Kind} (e : Ep) : Reach k e (doClose e).1 := by
  unfold doClose; split
  · exact .refl e
  · rename_i h
    exact .tail (.single (.flush e)) (.close _ (by simpa [flushPendStart] using h))

theorem reach_checkSessTerm {k : Kind} (e : Ep) : Reach k e (checkSessTerm e).1 := by
  unfold checkSessTerm; split
  · exact reach_doClose e
  · exact .refl e

theorem reach_sendBufferDecreased {k : Kind} (e : Ep) : Reach k e (sendBufferDecreased e) := by
  unfold sendBufferDecreased; split
  · exact reach_pqTrigger e
  · exact .refl e

theorem reach_sendSessTerm {k : Kind} (e : Ep) (r : Nat) (b : Bool) : Reach k e (sendSessTerm e r b).1 := by
  unfold sendSessTerm
  split
  · exact .refl e
  · split
    · exact .refl e
    · rename_i h1 h2
      have h : Reach k e _ := (Reach.single (.inTerm e (by simpa using h1) (by simpa using h2))).trans
        (reach_setState { e with inTerm := true } "ending")
      simp only [sendMessage_eq]
      exact .tail (.tail h (.term _ (if b then 1 else 0) r (by unfold setState; split <;> rfl))) (.flush _)

theorem hasEnd_flagEnd_add (p : Prop) [Decidable p] : hasEnd (flagEnd + if p then flagStart else 0) = true := by
  split <;> decide

theorem hasEnd_noend' (p : Prop) [Decidable p] : hasEnd (0 + if p then flagStart else 0) = false := by
  split <;> decide

theorem reach_sendSegment (e : Ep) (it : TxItem) (sent : Nat) (h : e.txTmp = some (it, sent)) :
    Reach .pq e (sendSegment e it sent).1 := by
  unfold sendSegment
  simp only []
  split
  · exact .single (.segEsc e it sent _ h)
  · split
    · rw [pa_sendMessage, sendMessage_eq]
      exact (Reach.single (.segEnd e it sent _ _ _ h (hasEnd_flagEnd_add _))).trans (reach_pqTrigger _)
    · rw [sendMessage_eq]
      exact .single (.segMid e it sent _ _ _ _ h (hasEnd_noend' _))

theorem reach_processQueue (e : Ep) : Reach .pq e (processQueue e).1 := by
  unfold processQueue
  split
  · rename_i it sent h
    exact reach_sendSegment e it sent h
  · rename_i h
    split
    · exact .refl e
    · rename_i hs
      split
      · exact (Reach.single (.flush e)).trans (reach_checkSessTerm _)
      · rename_i ht
        split
        · exact .refl e
        · rename_i it rest hp
          exact (Reach.single (.txStart e it rest (by simpa using hs) (by simpa using ht) h hp)).trans
            (reach_sendSegment _ it 0 rfl)

theorem reach_pullTx (e : Ep) : Reach .pump e (pullTx e) := by
  unfold pullTx; split
  · exact (Reach.single (.move e)).trans (reach_sendBufferDecreased _)
  · exact .refl e

theorem reach_writeConn (e : Ep) (n : Nat) (up : Bool) : Reach .pump e (writeConn e n up).1 := by
  unfold writeConn
  split
  · split
    · exact reach_checkSessTerm e
    · exact .refl e
  · simp only []
    have hk : min n (e.connBuf.take chunkSize).length ≤ chunkSize :=
      Nat.le_trans (Nat.min_le_right _ _) (by rw [List.length_take]; exact Nat.min_le_left _ _)
    split
    · exact .refl e
    · split
      · exact (Reach.single (.write e _ hk)).trans (reach_checkSessTerm _)
      · exact .single (.write e _ hk)

theorem reach_pump (e : Ep) (n : Nat) : Reach .pump e (pump e n).1 :=
  (reach_pullTx e).trans (reach_writeConn _ n _)

/-! `onSessInit` and `onSessTerm` may emit (`sendInit`, `sendSessTerm`) between recording the message and
    acting on it. Emitting commutes with recording, so the emission can be placed before the one
    transaction that records and acts. -/

theorem sendInit_proc (e : Ep) (m : Msg) : sendInit (e.proc m) = (sendInit e).proc m := by
  rw [sendInit_eq, sendInit_eq]; rfl

theorem sendSessTerm_proc (e : Ep) (m : Msg) (r : Nat) (b : Bool) :
    (sendSessTerm (e.proc m) r b).1 = (sendSessTerm e r b).1.proc m := by
  -- both sides take the same branch: `proc` touches neither `inSess`, `inTerm` nor `state`
  cases h1 : e.inSess with
  | false => simp only [sendSessTerm, Ep.proc, h1, Bool.not_false, if_true]
  | true =>
    cases h2 : e.inTerm with
    | true => simp only [sendSessTerm, Ep.proc, h1, h2, Bool.not_true, Bool.false_eq_true, if_false, if_true]
    | false =>
      simp only [sendSessTerm, Ep.proc, h1, h2, Bool.not_true, Bool.false_eq_true, if_false, setState,
        flushPendStart, sendMessage_eq, Ep.sent]
      split <;> rfl

theorem reach_onContact (e : Ep) (f : Nat) : Reach .msg e (onContact (e.proc (.contact f))).1 := by
  unfold onContact
  simp only []
  have h1 : Reach .msg e (if (e.proc (.contact f)).cfg.passive then sendContact (e.proc (.contact f)) else e.proc (.contact f)) := by
    split
    · rw [sendContact_eq]
      exact .tail (.single (.proc e _ rfl)) (.contact _)
    · exact .single (.proc e _ rfl)
  have h2 := h1.trans (reach_setState _ "session-negotiating")
  split
  · rw [sendInit_eq]
    exact .tail h2 (.init _)
  · exact h2

theorem reach_onSessInit (e : Ep) (p : PeerInit) (x : Bytes) :
    Reach .msg e (onSessInit (e.proc (.sessInit p.keepalive p.segMru p.xferMru p.node x)) p).1 := by
  unfold onSessInit
  simp only []
  refine Reach.trans ?_ (reach_setState _ "established")
  have hc : (e.proc (.sessInit p.keepalive p.segMru p.xferMru p.node x)).cfg = e.cfg := rfl
  rw [hc]
  split
  · rw [sendInit_proc, sendInit_eq]
    exact .tail (.single (.init e)) (.merge _ p x)
  · exact .single (.merge e p x)

/-- `pre` is what `onSegment` has put into `rxTmp` (START) or found there -/
theorem reach_segAccept (e : Ep) (f t : Nat) (x d cur : Bytes) (pre : Option (Nat × Bytes)) (o : List Out)
    (hs : e.inSess = true) (hc : if hasStart f then cur = [] else e.rxTmp = some (t, cur)) :
    Reach .msg e (segAccept { e.proc (.xferSegment f t x d) with rxTmp := pre } f t cur d o).1 := by
  unfold segAccept
  simp only [sendMessage_eq]
  split
  · rename_i he
    -- the `rxTmp` that `onSegment` set is overwritten
    have : ∀ v1 v2 v3, ({ { e.proc (.xferSegment f t x d) with rxTmp := pre }.sent (.xferAck f t (cur ++ d).length) with
          rxTmp := v1, rxMap := v2, rxLog := v3 } : Ep)
        = { (e.proc (.xferSegment f t x d)).sent (.xferAck f t (cur ++ d).length) with
          rxTmp := v1, rxMap := v2, rxLog := v3 } := fun _ _ _ => rfl
    rw [this]
    exact (Reach.single (.rxEnd e f t x d cur hs hc he)).trans (reach_checkSessTerm _)
  · rename_i he
    exact .single (.rxMid e f t x d cur hs hc (by simpa using he))

theorem reach_handleMsg (e : Ep) (m : Msg) : Reach .msg e (handleMsg e m).1 := by
  apply handleMsg_cases e (P := fun _ r => Reach .msg e r.1)
  case reject => intro m h; rw [sendReject_eq]; exact .single (.reject e _ m h)
  case keepalive | msgReject => intros; exact .single (.proc e _ rfl)
  case contact => intro f; exact reach_onContact e f
  case sessInit => intro ka sm xm node x; exact reach_onSessInit e ⟨ka, sm, xm, node⟩ x
  case sessTerm =>
    intro f r hs
    simp only []
    refine Reach.trans ?_ (reach_checkSessTerm _)
    refine Reach.tail ?_ (.flush _)
    split
    · rename_i ht
      have ht : e.inTerm = false := by simpa [Ep.proc] using ht
      rw [sendSessTerm_proc]
      obtain ⟨_, _, g2, _, g1⟩ := sendSessTerm_sent e r true hs ht
      exact .tail (reach_sendSessTerm e r true) (.gotTerm _ f r g1 g2)
    · rename_i ht
      exact .single (.gotTerm e f r hs (by simpa [Ep.proc] using ht))
  case segStart => intro f t x d hs hst; exact reach_segAccept e f t x d [] (some (t, [])) _ hs (by rw [if_pos hst])
  case segNext =>
    intro f t x d cur hs hst hr
    exact reach_segAccept e f t x d cur e.rxTmp _ hs (by rw [hst, if_neg Bool.false_ne_true]; exact hr)
  case ackEnd => intro f t l hs hm he hp; exact (Reach.single (.ackEnd e f t l hs hm hp he)).trans (reach_checkSessTerm _)
  case ackMid => intro f t l hs hm he; exact .single (.ackMid e f t l hs hm he)
  case refuse =>
    intro r t hs hm
    simp only []
    refine Reach.trans ?_ (reach_checkSessTerm _)
    have hr := Tr.refused e r t hs hm
    split
    · rename_i it n heq
      have heq : e.txTmp = some (it, n) := heq
      split
      · rename_i ht
        rw [heq, Option.filter, if_neg (by simpa using ht)] at hr
        exact (Reach.single hr).trans (reach_pqTrigger _)
      · rename_i ht
        rw [heq, Option.filter, if_pos (by simpa using ht), ← heq] at hr
        exact .single hr
    · rename_i heq
      have heq : e.txTmp = none := heq
      rw [heq, Option.filter, ← heq] at hr
      exact .single hr

theorem reach_handleMsgs (ms : List Msg) (e : Ep) : Reach .rx e (handleMsgs e ms).1 := by
  induction ms generalizing e with
  | nil => exact .refl e
  | cons m ms ih =>
    unfold handleMsgs
    split
    · exact .refl e
    · exact ((Reach.single (.rxMore e _)).trans (reach_handleMsg _ m).msg_rx).trans (ih _)

theorem reach_recvRaw (e : Ep) (c : Bytes) : Reach .rx e (recvRaw e c).1 := by
  unfold recvRaw
  simp only []
  have h : Reach .rx e { (handleMsgs (rxEntry e c) (feed e.rx c).2).1 with rxMore := false } :=
    .tail ((Reach.tail (.single (.idleReset e)) (.rxFeed _ _ _)).trans (reach_handleMsgs _ _)) (.rxMore _ false)
  split
  · exact h.trans (reach_doClose _)
  · exact h

theorem reach_popRx {k : Kind} (e : Ep) (t : Nat) : Reach k e (popRx e t).1 := by
  unfold popRx; split
  · exact .single (.pop e t)
  · exact .refl e

/-- only a socket read processes messages, only the keepalive timer emits a KEEPALIVE of its own accord, only
    the TX callback moves octets towards the socket, only the idle source of `_process_queue` starts a transfer or
    emits a segment -/
def Ev.kind : Ev → Kind
  | .rx _ => .rx
  | .keepaliveTimer => .ka
  | .pump _ => .pump
  | .procQueue => .pq
  | _ => .loc

theorem step_reach (e : Ep) (ev : Ev) : Reach ev.kind e (step e ev).1 := by
  apply step_cases e (P := fun ev r => Reach ev.kind e r.1)
  case idle | query => intros; exact .refl e
  case advance => intros; exact .single (.now e _)
  case pop => intro t; exact reach_popRx e t
  case pqClosed => intros; exact .single (.pqSched e false _)
  case start =>
    intros
    refine Reach.trans ?_ (reach_setState _ _)
    split
    · rw [sendContact_eq]
      exact .tail (.single (.started e)) (.contact _)
    · exact .single (.started e)
  case send => intro _ d; exact (Reach.single (.enqueue e d)).trans (reach_pqTrigger _)
  case terminate => intro _ r; exact reach_sendSessTerm e r false
  case close | rxEof => intros; exact reach_doClose e
  case procQueue =>
    intros
    exact .tail ((Reach.single (.pqSched e false e.pqSources)).trans (reach_processQueue _)) (.pqSched _ _ _)
  case pump =>
    intro _ _ n
    exact .tail ((Reach.single (.txSched e e.txWatch false e.txSrc)).trans (reach_pump _ n)) (.txSched _ _ _ _)
  case rx => intro _ c; exact reach_recvRaw e c
  case kaFire => intro _ h; rw [sendMessage_eq]; exact .single (.kaFire e h)
  case idleClose => intros; exact (Reach.single (.idleOff e)).trans (reach_doClose _)
  case idleTerm => intros; exact (Reach.single (.idleOff e)).trans (reach_sendSessTerm _ 1 false)
  case modulate => intros; exact .single (.segSize e _)

theorem step_inv {P : Ep → Prop} (hP : ∀ k a b, Tr k a b → P a → P b) (e : Ep) (ev : Ev) (h : P e) :
    P (step e ev).1 :=
  (step_reach e ev).inv (fun k a b t _ => hP k a b t) h

theorem Kind.recv_of_sub {k k' : Kind} (h : k'.sub k = true) (hk : k.recv = false) : k'.recv = false := by
  cases k <;> cases k' <;> revert h hk <;> decide

theorem Kind.ne_of_sub {k k' c : Kind} (h : k'.sub k = true) (hk : k ≠ c) (hc : c = .ka ∨ c = .pump ∨ c = .pq) :
    k' ≠ c := by
  rcases hc with rfl | rfl | rfl <;> cases k <;> cases k' <;> revert h hk <;> decide

theorem step_inv_nonrx {P : Ep → Prop} (hP : ∀ k a b, Tr k a b → k.recv = false → P a → P b) (e : Ep) (ev : Ev)
    (hne : ∀ c, ev ≠ .rx c) (h : P e) : P (step e ev).1 := by
  have hk : ev.kind.recv = false := by cases ev <;> first | exact absurd rfl (hne _) | rfl
  exact (step_reach e ev).inv (fun k a b t hs => hP k a b t (Kind.recv_of_sub hs hk)) h

theorem step_inv_nonka {P : Ep → Prop} (hP : ∀ k a b, Tr k a b → k ≠ .ka → P a → P b) (e : Ep) (ev : Ev)
    (hne : ev ≠ .keepaliveTimer) (h : P e) : P (step e ev).1 := by
  have hk : ev.kind ≠ .ka := by cases ev <;> first | exact absurd rfl hne | exact nofun
  exact (step_reach e ev).inv (fun k a b t hs => hP k a b t (Kind.ne_of_sub hs hk (.inl rfl))) h

theorem step_inv_nonpump {P : Ep → Prop} (hP : ∀ k a b, Tr k a b → k ≠ .pump → P a → P b) (e : Ep) (ev : Ev)
    (hne : ∀ n, ev ≠ .pump n) (h : P e) : P (step e ev).1 := by
  have hk : ev.kind ≠ .pump := by cases ev <;> first | exact absurd rfl (hne _) | exact nofun
  exact (step_reach e ev).inv (fun k a b t hs => hP k a b t (Kind.ne_of_sub hs hk (.inr (.inl rfl)))) h

theorem runEp_cons (e : Ep) (ev : Ev) (evs : List Ev) : runEp e (ev :: evs) = runEp (step e ev).1 evs :=
  run_cons_fst e ev evs

theorem run_inv {P : Ep → Prop} (hP : ∀ e ev, P e → P (step e ev).1) (evs : List Ev) (e : Ep) (h : P e) :
    P (runEp e evs) := by
  induction evs generalizing e with
  | nil => exact h
  | cons ev evs ih => rw [runEp_cons]; exact ih _ (hP e ev h)

end Tcpcl
end DtnVerif
