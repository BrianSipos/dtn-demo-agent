/-
  Timer invariant: a keepalive (idle) source is pending only while the negotiated keepalive (idle)
  time is positive.
-/
import DtnVerif.Lemmas.TcpclTr
namespace DtnVerif
namespace Tcpcl

def TimerInv (e : Ep) : Prop :=
  (e.kaDeadline.isSome = true → 0 < e.kaTime) ∧ (e.idleDeadline.isSome = true → 0 < e.idleTime)

theorem pos_of_isSome_ite {p : Prop} [Decidable p] {x : Nat} (h : (if p then some x else none).isSome = true) : p := by
  split at h
  · assumption
  · cases h

theorem timerInv_of_reset {e : Ep} {x y : Nat} (hk : e.kaDeadline = if e.kaTime > 0 then some x else none)
    (hd : e.idleDeadline = if e.idleTime > 0 then some y else none) : TimerInv e :=
  ⟨fun h => pos_of_isSome_ite (hk ▸ h), fun h => pos_of_isSome_ite (hd ▸ h)⟩

/-- every emission resets both timers, and so does the merge of the session parameters, which sets the times -/
theorem timerInv_tr {k : Kind} {a b : Ep} (h : Tr k a b) (hi : TimerInv a) : TimerInv b := by
  cases h with
  | idleReset => exact ⟨hi.1, fun h => pos_of_isSome_ite h⟩
  | idleOff => exact ⟨hi.1, nofun⟩
  | close => exact ⟨nofun, nofun⟩
  | contact | init | term | kaFire | segMid | segEnd | reject | merge | rxMid | rxEnd =>
    exact timerInv_of_reset rfl rfl
  | _ => exact hi

theorem timerInv_step (e : Ep) (ev : Ev) (hi : TimerInv e) : TimerInv (step e ev).1 :=
  step_inv (fun _ _ _ => timerInv_tr) e ev hi

theorem timerInv_init (cfg : Cfg) : TimerInv { cfg := cfg } := ⟨nofun, nofun⟩

end Tcpcl
end DtnVerif
