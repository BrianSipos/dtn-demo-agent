/- Frame sizes and the segmenting loop of `Btpu.sendTransfer`. -/
import DtnVerif.Model.Btpu
import DtnVerif.Lemmas.Bytes
import DtnVerif.Lemmas.UdpclSend
namespace DtnVerif
namespace Btpu

theorem encHead_length (m : Msg) : (encHead m).length = 4 := rfl

theorem segFrame_length (total xfer idx : Nat) (isEnd : Bool) (chunk : Bytes) :
    (segFrame total xfer idx isEnd chunk).length = 18 + chunk.length := by
  simp [segFrame, encMsg, mkMsg, normFlags, encHints, encHint, encHead_length]
  omega

theorem bundleFrame_length (data : Bytes) : (bundleFrame data).length = 4 + data.length := by
  simp [bundleFrame, encMsg, mkMsg, normFlags, encHints, encHead_length]

/-- indices count up from `idx`; exactly the last element is the TransferEnd -/
def SegsOK : Nat → List (Nat × Bool × Bytes) → Prop
  | _, [] => True
  | idx, [p] => p.1 = idx ∧ p.2.1 = true
  | idx, p :: q :: r => p.1 = idx ∧ p.2.1 = false ∧ SegsOK (idx + 1) (q :: r)

theorem segsOK_getElem : ∀ (ps : List (Nat × Bool × Bytes)) (idx : Nat), SegsOK idx ps →
    ∀ (j : Nat) (hj : j < ps.length),
      ps[j].1 = idx + j ∧ (ps[j].2.1 = true ↔ j + 1 = ps.length) := by
  intro ps
  induction ps with
  | nil => intro idx _ j hj; exact absurd hj (Nat.not_lt_zero _)
  | cons p rest ih =>
    intro idx hok j hj
    cases rest with
    | nil =>
      obtain ⟨h1, h2⟩ := hok
      have : j = 0 := by simp only [List.length_cons, List.length_nil] at hj; omega
      subst this
      exact ⟨h1, by simp [h2]⟩
    | cons q r =>
      obtain ⟨h1, h2, h3⟩ := hok
      cases j with
      | zero => exact ⟨h1, by simp [h2]⟩
      | succ j =>
        obtain ⟨e1, e2⟩ := ih (idx + 1) h3 j (Nat.lt_of_succ_lt_succ hj)
        rw [List.getElem_cons_succ, e1, e2]
        simp only [List.length_cons]
        omega

theorem segsOK_mem {ps : List (Nat × Bool × Bytes)} (hok : SegsOK 0 ps)
    {p : Nat × Bool × Bytes} (hp : p ∈ ps) :
    p.1 < ps.length ∧ ps[p.1]? = some p ∧ (p.2.1 = true ↔ p.1 + 1 = ps.length) := by
  obtain ⟨j, hj, rfl⟩ := List.getElem_of_mem hp
  obtain ⟨e1, e2⟩ := segsOK_getElem ps 0 hok j hj
  rw [e1, Nat.zero_add]
  exact ⟨hj, List.getElem?_eq_getElem hj, e2⟩

theorem segLoop_chunks (data : Bytes) (remain : Nat) : ∀ (fuel off idx : Nat),
    (segLoop fuel data remain off idx).map (·.2.2) =
      (Udpcl.splitLoop fuel data remain off).map (·.2) := by
  intro fuel
  induction fuel with
  | zero => intro off idx; rfl
  | succ fuel ih =>
    intro off idx
    unfold segLoop Udpcl.splitLoop
    split
    · rw [List.map_cons, List.map_cons, ih]
    · rfl

theorem segLoop_of_ge (data : Bytes) (remain idx : Nat) {off : Nat} (h : data.length ≤ off) :
    ∀ fuel, segLoop fuel data remain off idx = []
  | 0 => rfl
  | f + 1 => by unfold segLoop; rw [if_neg (Nat.not_lt.mpr h)]

theorem segLoop_ok (data : Bytes) (remain : Nat) (hr : 0 < remain) :
    ∀ (fuel off idx : Nat), data.length - off < fuel →
      SegsOK idx (segLoop fuel data remain off idx) ∧
        (off < data.length → segLoop fuel data remain off idx ≠ []) := by
  intro fuel
  induction fuel with
  | zero => intro off idx h; omega
  | succ fuel ih =>
    intro off idx hf
    unfold segLoop
    by_cases hlt : off < data.length
    · simp only [hlt, if_true]
      obtain ⟨hok, hne⟩ := ih (off + remain) (idx + 1) (by omega)
      refine ⟨?_, fun _ => List.cons_ne_nil _ _⟩
      by_cases hmore : off + remain < data.length
      · cases hps : segLoop fuel data remain (off + remain) (idx + 1) with
        | nil => exact absurd hps (hne hmore)
        | cons q r => rw [hps] at hok; exact ⟨rfl, by simp [hmore], hok⟩
      · rw [segLoop_of_ge data remain (idx + 1) (Nat.le_of_not_lt hmore)]
        exact ⟨rfl, by simp [hmore]⟩
    · simp only [hlt, if_false]
      exact ⟨trivial, False.elim⟩

theorem segLoop_spec (data : Bytes) (remain : Nat) (hr : 0 < remain) (fuel off idx : Nat)
    (hf : data.length - off < fuel) :
    SegsOK idx (segLoop fuel data remain off idx) ∧
      ((segLoop fuel data remain off idx).map (·.2.2)).flatten = data.drop off ∧
      ∀ p ∈ segLoop fuel data remain off idx, 0 < p.2.2.length ∧ p.2.2.length ≤ remain := by
  obtain ⟨_, hcat, hall⟩ := Udpcl.splitLoop_spec data remain hr fuel off hf
  refine ⟨(segLoop_ok data remain hr fuel off idx hf).1, by rw [segLoop_chunks]; exact hcat, ?_⟩
  intro p hp
  have hm : p.2.2 ∈ (segLoop fuel data remain off idx).map (·.2.2) := List.mem_map_of_mem hp
  rw [segLoop_chunks] at hm
  obtain ⟨q, hq, hqp⟩ := List.mem_map.mp hm
  exact hqp ▸ hall q hq

end Btpu
end DtnVerif
