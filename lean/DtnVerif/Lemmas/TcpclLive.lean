/-
  Delivery at quiescence: when one direction of the two-endpoint system has drained (nothing buffered,
  nothing on the wire, no idle source pending at the sender), everything the sender's user queued has
  been completely received by the peer.
-/
import DtnVerif.Lemmas.TcpclSysLift
import DtnVerif.Lemmas.TcpclRxAck
import DtnVerif.Lemmas.TcpclAckSucc
import DtnVerif.Lemmas.TcpclSP
namespace DtnVerif
namespace Tcpcl

structure Drained (w r : Ep) (pipe : Bytes) : Prop where
  wOpen : w.closed = false
  rOpen : r.closed = false
  notTerm : w.inTerm = false
  txBuf : w.txBuf = []
  connBuf : w.connBuf = []
  pipe : pipe = []
  noSource : w.pqSources = 0

theorem no_wake_tx {e : Ep} (hw : WakeInv e) (ho : e.closed = false) (hp : e.pqSources = 0) (hb : e.txBuf = []) :
    e.txTmp = none ∧ e.txPendStart = [] := by
  have htmp : e.txTmp = none := by
    cases h : e.txTmp with
    | none => rfl
    | some p =>
      rcases hw.tmp ho (by simp [h]) with h1 | h1
      · rw [hp] at h1; exact absurd h1 (Nat.lt_irrefl 0)
      · exact absurd hb h1
  refine ⟨htmp, ?_⟩
  cases h : e.txPendStart with
  | nil => rfl
  | cons a l =>
    have := hw.start ho htmp (by simp [h])
    rw [hp] at this; exact absurd this (Nat.lt_irrefl 0)

theorem drained_processed (w r : Ep) (pipe : Bytes) (hw : EpInv w) (hr : EpInv r)
    (hwf : ∀ m ∈ w.emitted, m.WF) (hwire : r.rxBytes ++ pipe = w.accepted)
    (h1 : w.txBuf = []) (h2 : w.connBuf = []) (h3 : pipe = []) (h4 : r.closed = false) :
    r.processed = w.emitted ∧ r.rxBytes = encodeAll w.emitted := by
  have hrx : r.rxBytes = encodeAll w.emitted := by
    rw [← hw.pump.accepted_eq h1 h2, ← hwire, h3, List.append_nil]
  refine ⟨?_, hrx⟩
  rw [hr.frame.2.2 h4, hrx]
  exact stream_full _ (emitted_legal hw) hwf

theorem drained_delivery (w r : Ep) (pipe : Bytes) (hw : EpInv w) (hr : EpInv r) (hwake : WakeInv w)
    (hwf : ∀ m ∈ w.emitted, m.WF) (hwire : r.rxBytes ++ pipe = w.accepted) (hd : Drained w r pipe) :
    w.txTmp = none ∧ w.txPendStart = [] ∧ r.processed = w.emitted
      ∧ r.rxLog = w.sendLog.map (fun it => (it.tid, it.data)) := by
  obtain ⟨htmp, hps⟩ := no_wake_tx hwake hd.wOpen hd.noSource hd.txBuf
  obtain ⟨hproc, -⟩ := drained_processed w r pipe hw hr hwf hwire hd.txBuf hd.connBuf hd.pipe hd.rOpen
  refine ⟨htmp, hps, hproc, ?_⟩
  -- all queued bundles have been started and completely emitted
  obtain ⟨P, hP⟩ := hw.tx
  obtain ⟨i, hi1, hi2, hi3, hi4⟩ := hP.pend
  simp only [Ep.txView] at hi1 hi2 hi3 hi4
  have hi5 : i = w.nStarted := hi4 hd.notTerm hd.wOpen
  have hns : w.nStarted = w.sendLog.length := by
    have : w.sendLog.drop i = [] := by rw [← hi3]; exact hps
    have := List.drop_eq_nil_iff.mp this
    omega
  have h1 : r.rxLog = deliver r.processed := hr.rx.1
  rw [h1, hproc, hP.deliver_emitted]
  simp only [htmp, Option.isSome_none, Bool.false_eq_true, if_false, Nat.sub_zero, hns, List.take_length]

theorem success_of_ack {e : Ep} (has : ASInv e) (hnr : ∀ m ∈ e.emitted, m.isRej = false) {f t l : Nat}
    (hack : Msg.xferAck f t l ∈ e.processed) (hend : hasEnd f = true) : t ∈ e.successLog := by
  have := has _ hack
  simp only [asOK] at this
  rcases this hend with h | ⟨x, hx, hj⟩
  · exact h
  · rw [hnr x hx] at hj; cases hj

theorem drained_success (w r : Ep) (pipeWR pipeRW : Bytes) (hw : EpInv w) (hr : EpInv r) (hwake : WakeInv w)
    (hwfw : ∀ m ∈ w.emitted, m.WF) (hwfr : ∀ m ∈ r.emitted, m.WF)
    (hwire : r.rxBytes ++ pipeWR = w.accepted) (hwire' : w.rxBytes ++ pipeRW = r.accepted)
    (hd : Drained w r pipeWR) (hb1 : r.txBuf = []) (hb2 : r.connBuf = []) (hb3 : pipeRW = [])
    (hq : QInv w) (hsp : SP w) (has : ASInv w) (hra : RxAckInv r)
    (hnr : ∀ m ∈ w.emitted, m.isRej = false) :
    (∀ it ∈ w.sendLog, it.tid ∈ w.successLog) ∧ w.txMap = [] := by
  obtain ⟨htmp, hps, _, hlog⟩ := drained_delivery w r pipeWR hw hr hwake hwfw hwire hd
  obtain ⟨hback, -⟩ := drained_processed r w pipeRW hr hw hwfr hwire' hb1 hb2 hb3 hd.wOpen
  have hall : ∀ it ∈ w.sendLog, it.tid ∈ w.successLog := by
    intro it hit
    have hmem : (it.tid, it.data) ∈ r.rxLog := by
      rw [hlog]; exact List.mem_map.mpr ⟨it, hit, rfl⟩
    obtain ⟨f, l, hend, hack⟩ := hra _ hmem
    rw [← hback] at hack
    exact success_of_ack has hnr hack hend
  refine ⟨hall, ?_⟩
  apply List.eq_nil_iff_forall_not_mem.mpr
  intro t ht
  obtain ⟨P, hP⟩ := hw.tx
  have hnext := hP.nextId
  have htids := hP.tids
  simp only [Ep.txView] at hnext htids
  have h1 : 1 ≤ t := hsp.mapPos t ht
  have h2 : t < w.txNextId := hq.fresh t ht
  have hlt : t - 1 < w.sendLog.length := by omega
  have hget : w.sendLog[t - 1]? = some w.sendLog[t - 1] := List.getElem?_eq_getElem hlt
  have htid := htids (t - 1) _ hget
  have hin : w.sendLog[t - 1] ∈ w.sendLog := List.getElem_mem hlt
  have hs := hall _ hin
  rw [htid, show t - 1 + 1 = t by omega] at hs
  exact (hsp.succ t hs).1 ht

end Tcpcl
end DtnVerif
