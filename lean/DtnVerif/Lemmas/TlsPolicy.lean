/-
  Lemmas about Model/TlsPolicy.lean: characterisation of `matchId`, also over the type-filtered values
  of an arbitrary SAN list, the finite decision tables (`contactDecision`, `authDecision`) and the
  shape of `render`.
-/
import DtnVerif.Model.TlsPolicy
namespace DtnVerif
namespace TlsPolicy

theorem IdResult.eq_matched {x : IdResult} (ha : x ≠ .absent) (hm : x ≠ .mismatch) : x = .matched := by
  cases x
  · exact absurd rfl ha
  · rfl
  · exact absurd rfl hm

section
variable {α : Type} [DecidableEq α]

/-- `match_id` where the certificate has a subjectAltName extension (without one the result is
    `.absent` by definition). -/
theorem matchId_some (ref : Option α) (l : List α) :
    (matchId ref (some l) = .absent ↔ l = []) ∧
    (matchId ref (some l) = .matched ↔ ∃ r, ref = some r ∧ r ∈ l) ∧
    (matchId ref (some l) = .mismatch ↔ l ≠ [] ∧ ∀ r, ref = some r → r ∉ l) := by
  rcases l with _ | ⟨i, is⟩
  · simp [matchId]
  · rcases ref with _ | r
    · simp [matchId]
    · simp only [matchId, Option.some.injEq, exists_eq_left', forall_eq']
      split <;> simp [*]

/-- Nothing equals Python `None`: without a reference there is never a match. -/
theorem matchId_none_ref (ids : Option (List α)) : matchId (none : Option α) ids ≠ .matched := by
  rcases ids with _ | l
  · exact fun h => nomatch h
  · rw [ne_eq, (matchId_some none l).2.1]
    rintro ⟨r, hr, _⟩
    cases hr

/-- The `if cert_ids:` test of `match_id`. -/
theorem matchId_some_beq_absent (ref : Option α) (l : List α) :
    (matchId ref (some l) == .absent) = l.isEmpty := by
  rcases l with _ | ⟨i, is⟩
  · rfl
  · rcases ref with _ | r
    · rfl
    · simp only [matchId]
      split <;> rfl

/-- `f` is the selector of `get_values_for_type`, `mk` the constructor it selects. -/
theorem matchId_filterMap {f : GName → Option α} {mk : α → GName}
    (hf : ∀ g a, f g = some a ↔ g = mk a) (ref : Option α) (l : List GName) :
    (matchId ref (some (l.filterMap f)) = .absent ↔ ¬∃ a, mk a ∈ l) ∧
    (matchId ref (some (l.filterMap f)) = .matched ↔ ∃ r, ref = some r ∧ mk r ∈ l) ∧
    (matchId ref (some (l.filterMap f)) = .mismatch ↔
      (∃ a, mk a ∈ l) ∧ ∀ r, ref = some r → mk r ∉ l) := by
  have hmem (a : α) : a ∈ l.filterMap f ↔ mk a ∈ l := by
    simp only [List.mem_filterMap, hf]
    exact ⟨fun ⟨g, hg, e⟩ => e ▸ hg, fun h => ⟨_, h, rfl⟩⟩
  have hnil : l.filterMap f = [] ↔ ¬∃ a, mk a ∈ l := by
    simp only [List.eq_nil_iff_forall_not_mem, hmem, not_exists]
  obtain ⟨ha, hm, hx⟩ := matchId_some ref (l.filterMap f)
  refine ⟨ha.trans hnil, hm.trans ?_, hx.trans ?_⟩
  · simp only [hmem]
  · simp only [ne_eq, hnil, Classical.not_not, hmem]

end

/-- The table in normal form: the policy check before the attempt; then, where both sides offer TLS,
    the handshake decides; the policy check after the attempt never fails once the first has passed. -/
theorem contactDecision_eq (os : Bool) (req : Option Bool) (t p : Bool) (hs : Handshake) :
    contactDecision os req t p hs =
      if req = some (!(t && p)) then .close false
      else if (t && p) = true then
        match hs with
        | .ok => .proceedTls
        | .sslError => .close true
        | .osError => if os = true then .wedged else .close true
      else .proceedClear := by
  unfold contactDecision
  generalize (t && p) = a
  cases os <;> rcases req with _ | _ | _ <;> cases a <;> cases hs <;> rfl

theorem contactDecision_attempted (os : Bool) (req : Option Bool) (t p : Bool) (hs : Handshake) :
    (contactDecision os req t p hs).attempted = (t && p && (req != some false)) := by
  rw [contactDecision_eq]
  cases t && p
  · split <;> rfl
  · by_cases h : req = some false
    · simp [h, Contact.attempted]
    · cases hs <;> cases os <;> simp [h, Contact.attempted]

theorem contactDecision_proceedTls_iff (os : Bool) (req : Option Bool) (t p : Bool) (hs : Handshake) :
    contactDecision os req t p hs = .proceedTls ↔ ((t && p) = true ∧ hs = .ok ∧ req ≠ some false) := by
  rw [contactDecision_eq]
  cases t && p
  · split <;> simp
  · by_cases h : req = some false
    · simp [h]
    · cases hs <;> cases os <;> simp [h]

theorem contactDecision_proceedClear_iff (os : Bool) (req : Option Bool) (t p : Bool) (hs : Handshake) :
    contactDecision os req t p hs = .proceedClear ↔ ((t && p) = false ∧ req ≠ some true) := by
  rw [contactDecision_eq]
  cases t && p
  · by_cases h : req = some true <;> simp [h]
  · by_cases h : req = some false
    · simp [h]
    · cases hs <;> cases os <;> simp [h]

theorem contactDecision_close_iff (os : Bool) (req : Option Bool) (t p : Bool) (hs : Handshake) (a : Bool) :
    contactDecision os req t p hs = .close a ↔
      (a = (t && p && (req != some false)) ∧
       (req = some (!(t && p)) ∨ ((t && p) = true ∧ (hs = .sslError ∨ (hs = .osError ∧ os = false))))) := by
  rw [contactDecision_eq]
  cases t && p
  · by_cases h : req = some true <;> simp [h]
  · by_cases h : req = some false
    · simp [h]
    · cases hs <;> cases os <;> simp [h, bne_iff_ne.mpr h]

theorem contactDecision_wedged_iff (os : Bool) (req : Option Bool) (t p : Bool) (hs : Handshake) :
    contactDecision os req t p hs = .wedged ↔
      ((t && p) = true ∧ hs = .osError ∧ os = true ∧ req ≠ some false) := by
  rw [contactDecision_eq]
  cases t && p
  · split <;> simp
  · by_cases h : req = some false
    · simp [h]
    · cases hs <;> cases os <;> simp [h]

theorem authDecision_establish_iff (u : Bool) (ip dns node : IdResult) (k rh rn : Bool) :
    authDecision u ip dns node k rh rn = .establish ↔
      (¬(ip = .mismatch ∨ (k = true ∧ dns = .mismatch) ∨ node = .mismatch) ∧
       (rh = true → (ip = .matched ∨ (dns ≠ .absent ∧ (u = true ∨ k = true)))) ∧
       (rn = true → node = .matched)) := by
  revert u k rh rn
  cases ip <;> cases dns <;> cases node <;> decide

attribute [local simp] Contact.isTls Contact.isClose Contact.closedBeforeFlush Contact.escapes Contact.proceeds
  Contact.attempted Sess.delivered Sess.termOut Sess.state Sess.escapes Sess.isEstablished

theorem render_isSecure (c : Cfg) (e : Env) (p : PeerId) (ct : Contact) (ss : Sess) :
    (render c e p ct ss).isSecure = true ↔ ct = .proceedTls := by
  show ct.isTls = true ↔ _
  cases ct <;> simp

theorem render_attempted (c : Cfg) (e : Env) (p : PeerId) (ct : Contact) (ss : Sess) :
    (render c e p ct ss).attempted = ct.attempted := rfl

theorem render_closed (c : Cfg) (e : Env) (p : PeerId) (ct : Contact) (ss : Sess) :
    (render c e p ct ss).closed = true ↔ ∃ a, ct = .close a := by
  show ct.isClose = true ↔ _
  cases ct <;> simp

theorem render_state_established (c : Cfg) (e : Env) (p : PeerId) (ct : Contact) (ss : Sess) :
    (render c e p ct ss).state = .established ↔ ss = .established := by
  show ss.state = _ ↔ _
  cases ss <;> simp

theorem render_state_ending (c : Cfg) (e : Env) (p : PeerId) (ct : Contact) (ss : Sess) :
    (render c e p ct ss).state = .ending ↔ ∃ r, ss = .terminated r := by
  show ss.state = _ ↔ _
  cases ss <;> simp

theorem render_clear_mem (c : Cfg) (e : Env) (p : PeerId) (ct : Contact) (ss : Sess) (m : Msg)
    (h : m ∈ (render c e p ct ss).clear) :
    m = .contact c.tlsEnable ∨ (m = .sessInit ∧ ct = .proceedClear) := by
  rcases List.mem_append.mp h with h | h
  · left
    split at h
    · cases h
    · exact List.mem_singleton.mp h
  · right
    cases ct <;> simp at h
    exact ⟨h.2, rfl⟩

theorem render_sessInit_clear (c : Cfg) (e : Env) (p : PeerId) (ct : Contact) (ss : Sess)
    (h : Msg.sessInit ∈ (render c e p ct ss).clear) : ct = .proceedClear := by
  rcases render_clear_mem c e p ct ss _ h with h | h
  · cases h
  · exact h.2

theorem render_sessTerm_clear (c : Cfg) (e : Env) (p : PeerId) (ct : Contact) (ss : Sess) (r : Nat) :
    Msg.sessTerm r ∉ (render c e p ct ss).clear := by
  intro h
  rcases render_clear_mem c e p ct ss _ h with h | h
  · cases h
  · cases h.1

theorem render_secured_tls (c : Cfg) (e : Env) (p : PeerId) (ss : Sess) :
    (render c e p .proceedTls ss).secured =
      (if !c.passive || ss.delivered then [.sessInit] else []) ++ ss.termOut := rfl

theorem render_secured_nil (c : Cfg) (e : Env) (p : PeerId) (ct : Contact) (ss : Sess) (h : ct ≠ .proceedTls) :
    (render c e p ct ss).secured = [] := by
  cases ct
  · rfl
  · exact absurd rfl h
  · rfl
  · rfl

theorem render_sessInit_secured (c : Cfg) (e : Env) (p : PeerId) (ct : Contact) (ss : Sess)
    (h : Msg.sessInit ∈ (render c e p ct ss).secured) : ct = .proceedTls := by
  refine Decidable.byContradiction fun hc => ?_
  rw [render_secured_nil c e p ct ss hc] at h
  cases h

theorem render_sessTerm_secured (c : Cfg) (e : Env) (p : PeerId) (ss : Sess) (r : Nat) :
    Msg.sessTerm r ∈ (render c e p .proceedTls ss).secured ↔ ss = .terminated r := by
  rw [render_secured_tls, List.mem_append]
  cases ss <;> simp
  exact eq_comm

theorem sessDecision_established (q : Quirks) (c : Cfg) (e : Env) (p : PeerId) (ct : Contact)
    (h : sessDecision q c e p ct = .established) : ct = .proceedClear ∨ ct = .proceedTls := by
  cases ct with
  | proceedClear => exact Or.inl rfl
  | proceedTls => exact Or.inr rfl
  | close a =>
    simp only [sessDecision] at h
    split at h <;> cases h
  | wedged => cases h

theorem sessDecision_terminated (q : Quirks) (c : Cfg) (e : Env) (p : PeerId) (ct : Contact) (r : Nat)
    (h : sessDecision q c e p ct = .terminated r) : ct = .proceedTls ∧ r = reasonContactFailure := by
  cases ct with
  | proceedClear => cases h
  | close a =>
    simp only [sessDecision] at h
    split at h <;> cases h
  | wedged => cases h
  | proceedTls =>
    refine ⟨rfl, ?_⟩
    simp only [sessDecision] at h
    repeat' split at h
    all_goals cases h
    all_goals rfl

/-- A missing certificate reads as "nothing presented" (`habs`), so that the two calls of
    `authDecision` are one. -/
theorem sessDecision_tls_eq (q : Quirks) (c : Cfg) (e : Env) (p : PeerId)
    (habs : p.certPresent = false → p.ip = .absent ∧ p.dns = .absent ∧ p.node = .absent) :
    sessDecision q c e p .proceedTls =
      if (e.pipelined && !q.carriesPlaintext) = true then .notDelivered
      else if (q.callsNative && !e.nativeMatch) = true then .escaped .attributeError
      else if (!p.certPresent && q.noCertRaises) = true then .escaped .typeError
      else if authDecision q.uncheckedDnsCounts p.ip p.dns p.node p.dnsKnown c.requireHost c.requireNode = .establish
        then .established
      else .terminated reasonContactFailure := by
  cases hcp : p.certPresent
  · obtain ⟨hi, hd, hn⟩ := habs hcp
    rw [hi, hd, hn]
    cases hq : q.noCertRaises <;> simp [sessDecision, hcp, hq]
    cases authDecision q.uncheckedDnsCounts .absent .absent .absent p.dnsKnown c.requireHost c.requireNode <;> rfl
  · simp [sessDecision, hcp]
    cases authDecision q.uncheckedDnsCounts p.ip p.dns p.node p.dnsKnown c.requireHost c.requireNode <;> rfl

/-- Where neither escaping branch of the chain is open, a SESS_INIT under TLS is discarded or
    decided by `authDecision`. -/
theorem sessDecision_tls_safe (q : Quirks) (c : Cfg) (e : Env) (p : PeerId)
    (habs : p.certPresent = false → p.ip = .absent ∧ p.dns = .absent ∧ p.node = .absent)
    (hNative : q.callsNative = true → e.nativeMatch = true)
    (hCert : q.noCertRaises = true → p.certPresent = true) :
    sessDecision q c e p .proceedTls =
      if (e.pipelined && !q.carriesPlaintext) = true then .notDelivered
      else if authDecision q.uncheckedDnsCounts p.ip p.dns p.node p.dnsKnown c.requireHost c.requireNode = .establish
        then .established
      else .terminated reasonContactFailure := by
  have h2 : ¬(q.callsNative && !e.nativeMatch) = true := by simpa using hNative
  have h3 : ¬(!p.certPresent && q.noCertRaises) = true := fun h => by
    simp [hCert (Bool.and_eq_true_iff.mp h).2] at h
  rw [sessDecision_tls_eq q c e p habs, if_neg h2, if_neg h3]

theorem sessDecision_tls_established (q : Quirks) (c : Cfg) (e : Env) (p : PeerId)
    (habs : p.certPresent = false → p.ip = .absent ∧ p.dns = .absent ∧ p.node = .absent)
    (h : sessDecision q c e p .proceedTls = .established) :
    authDecision q.uncheckedDnsCounts p.ip p.dns p.node p.dnsKnown c.requireHost c.requireNode = .establish ∧
    (e.pipelined = true → q.carriesPlaintext = true) := by
  rw [sessDecision_tls_eq q c e p habs] at h
  by_cases h1 : (e.pipelined && !q.carriesPlaintext) = true
  · rw [if_pos h1] at h
    cases h
  refine ⟨?_, fun hpp => by simpa [hpp] using h1⟩
  rw [if_neg h1] at h
  split at h
  · cases h
  split at h
  · cases h
  split at h
  · assumption
  · cases h

end TlsPolicy
end DtnVerif
