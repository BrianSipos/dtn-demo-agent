/- What a UDPCL datagram amounts to — a run of messages whose lengths are bounded — and, from that,
   that lengths reaching D-Bus 't' arguments stay below 2^64. -/
import DtnVerif.Model.Udpcl
import DtnVerif.Lemmas.Cbor
namespace DtnVerif
namespace Udpcl
open Cbor

theorem parseTransferVal_spec (b : Bytes) (t : Nat × Nat × Nat × Bytes) (r : Bytes)
    (h : parseTransferVal b = some (t, r)) : t.2.1 < 2 ^ 64 ∧ r.length < b.length := by
  unfold parseTransferVal at h
  -- the five readers succeed in turn, and each leaves a rest that is no longer
  split at h
  · cases h
  rename_i n r0 h0
  split at h
  · cases h
  split at h
  · cases h
  rename_i id r1 h1
  split at h
  · cases h
  rename_i total r2 h2
  split at h
  · cases h
  rename_i off r3 h3
  split at h
  · cases h
  rename_i d r4 h4
  cases h
  have a0 := (decHead_spec _ _ _ _ (decArrHead_head h0)).2
  have a1 := decHead_spec _ _ _ _ (decUint_head h1)
  have a2 := decHead_spec _ _ _ _ (decUint_head h2)
  have a3 := decHead_spec _ _ _ _ (decUint_head h3)
  have a4 := decBstr_len h4
  exact ⟨a2.1, by omega⟩

theorem skip_len : ∀ f : Nat,
    (∀ b r, skipItem f b = some r → r.length ≤ b.length) ∧
    (∀ n b r, skipN f n b = some r → r.length ≤ b.length) ∧
    (∀ b r, skipIndef f b = some r → r.length ≤ b.length) := by
  intro f
  induction f with
  | zero =>
    refine ⟨?_, ?_, ?_⟩
    · intro b r h; simp [skipItem] at h
    · intro n b r h; simp [skipN] at h
    · intro b r h; simp [skipIndef] at h
  | succ f ih =>
    obtain ⟨ih1, ih2, ih3⟩ := ih
    refine ⟨?_, ?_, ?_⟩
    · intro b r h
      cases b with
      | nil => simp [skipItem] at h
      | cons x rest =>
        simp only [skipItem] at h
        split at h
        · split at h
          · have := ih3 _ _ h; simp only [List.length_cons]; omega
          · cases h
        split at h
        · cases h
        rename_i mt n r' hd
        have hs := (decHead_spec _ _ _ _ hd).2
        split at h
        · split at h
          · cases h
          · cases h; simp only [List.length_drop]; omega
        split at h
        · have := ih2 _ _ _ h; omega
        split at h
        · have := ih2 _ _ _ h; omega
        split at h
        · have := ih1 _ _ h; omega
        · cases h; omega
    · intro n b r h
      cases n with
      | zero => cases h; exact Nat.le_refl _
      | succ n =>
        simp only [skipN] at h
        split at h
        · cases h
        rename_i r1 hs
        have := ih1 _ _ hs
        have := ih2 _ _ _ h
        omega
    · intro b r h
      cases b with
      | nil => simp [skipIndef] at h
      | cons x rest =>
        simp only [skipIndef] at h
        split at h
        · cases h; exact Nat.le_succ _
        split at h
        · cases h
        rename_i r1 hs
        have := ih1 _ _ hs
        have := ih3 _ _ h
        omega

theorem parsePairs_spec : ∀ (n : Nat) (b : Bytes) (acc m : ExtMap) (r : Bytes),
    parsePairs n b acc = some (m, r) →
    (∀ t, acc.transfer = some t → t.2.1 < 2 ^ 64) →
    (∀ t, m.transfer = some t → t.2.1 < 2 ^ 64) ∧ r.length ≤ b.length := by
  intro n
  induction n with
  | zero =>
    intro b acc m r h hacc
    cases h
    exact ⟨hacc, Nat.le_refl _⟩
  | succ n ih =>
    intro b acc m r h hacc
    simp only [parsePairs] at h
    split at h
    · cases h
    rename_i k r0 hk
    have hk' := (decHead_spec _ _ _ _ (decUint_head hk)).2
    split at h
    · split at h
      · cases h
      rename_i t r1 ht
      have hts := parseTransferVal_spec _ _ _ ht
      obtain ⟨a, b'⟩ := ih r1 _ m r h fun t' ht' => Option.some.inj ht' ▸ hts.1
      exact ⟨a, by omega⟩
    · split at h
      · cases h
      rename_i r1 hs
      have hl := (skip_len _).1 _ _ hs
      obtain ⟨a, b'⟩ := ih r1 _ m r h hacc
      exact ⟨a, by omega⟩

theorem parseExtMap_spec (b : Bytes) (m : ExtMap) (r : Bytes) (h : parseExtMap b = some (m, r)) :
    (∀ t, m.transfer = some t → t.2.1 < 2 ^ 64) ∧ r.length ≤ b.length := by
  unfold parseExtMap at h
  split at h
  · cases h
  rename_i n r0 hm
  have := (decHead_spec _ _ _ _ (decMapHead_head hm)).2
  obtain ⟨a, b'⟩ := parsePairs_spec n r0 _ m r h (fun t ht => by cases ht)
  exact ⟨a, by omega⟩

/-- The lengths a message brings in: the total length of a TRANSFER is a CBOR unsigned integer, a
    whole bundle is part of a datagram of `n` octets. -/
def EvBound (n : Nat) : Ev → Prop
  | .xfer _ total _ _ => total < 2 ^ 64
  | .bundle _ _ d => d.length ≤ n

theorem EvBound.mono {n n' : Nat} {e : Ev} (h : EvBound n e) (hn : n ≤ n') : EvBound n' e := by
  cases e with
  | xfer k total off chunk => exact h
  | bundle a p d => exact Nat.le_trans h hn

theorem recvExtMap_run (rej : Bool) (s : Rx) (addr : String) (port : Nat) (m : ExtMap)
    (hm : ∀ t, m.transfer = some t → t.2.1 < 2 ^ 64) (n : Nat) :
    ∃ evs, (recvExtMap rej s addr port m).1 = run s evs ∧ ∀ e ∈ evs, EvBound n e := by
  unfold recvExtMap
  split
  · exact ⟨[], rfl, nofun⟩
  · split
    · exact ⟨[], rfl, nofun⟩
    · cases ht : m.transfer with
      | none => exact ⟨[], rfl, nofun⟩
      | some t =>
        obtain ⟨id, total, off, d⟩ := t
        refine ⟨[.xfer ⟨addr, port, id⟩ total off d], ?_,
          fun e he => by rw [List.mem_singleton.mp he]; exact hm _ ht⟩
        simp only [run, List.foldl_cons, List.foldl_nil, step]
        cases recvTransfer s ⟨addr, port, id⟩ total off d <;> rfl

theorem recvLoop_run : ∀ (f : Nat) (rej : Bool) (addr : String) (port : Nat) (s : Rx) (b : Bytes),
    ∃ evs, (recvLoop f rej addr port s b).1 = run s evs ∧ ∀ e ∈ evs, EvBound b.length e := by
  intro f
  induction f with
  | zero => intro rej addr port s b; exact ⟨[], rfl, nofun⟩
  | succ f ih =>
    intro rej addr port s b
    have stop : ∃ evs, s = run s evs ∧ ∀ e ∈ evs, EvBound b.length e := ⟨[], rfl, nofun⟩
    cases b with
    | nil => exact stop
    | cons x rest =>
      unfold recvLoop
      split
      · exact stop
      split
      · exact stop
      split
      · exact stop
      split
      · -- a whole bundle, delimited by `skipItem`
        split
        · exact stop
        split
        · exact stop
        rename_i r hsk
        have hl := (skip_len _).1 _ _ hsk
        obtain ⟨evs, h, hb⟩ := ih rej addr port (step s (.bundle addr port
          ((x :: rest).take ((x :: rest).length - r.length)))) r
        refine ⟨_ :: evs, h, fun e he => ?_⟩
        rcases List.mem_cons.mp he with rfl | he
        · exact List.length_take_le' _ _
        · exact (hb e he).mono hl
      split
      · -- an extension map
        split
        · exact stop
        rename_i m r hp
        obtain ⟨hm, hl⟩ := parseExtMap_spec _ _ _ hp
        obtain ⟨ev0, h0, hb0⟩ := recvExtMap_run rej s addr port m hm (x :: rest).length
        split
        · rename_i s' heq
          rw [heq] at h0
          have h0 : s' = run s ev0 := h0
          obtain ⟨evs, h, hb⟩ := ih rej addr port s' r
          refine ⟨ev0 ++ evs, ?_, fun e he => ?_⟩
          · rw [h, h0]; exact (List.foldl_append ..).symm
          · rcases List.mem_append.mp he with he | he
            · exact hb0 e he
            · exact (hb e he).mono hl
        · rename_i s' o _ heq
          rw [heq] at h0
          exact ⟨ev0, h0, hb0⟩
      · exact stop

theorem recvDatagram_run (rej : Bool) (s : Rx) (addr : String) (port : Nat) (data : Bytes) :
    ∃ evs, (recvDatagram rej s addr port data).1 = run s evs ∧ ∀ e ∈ evs, EvBound data.length e :=
  recvLoop_run _ _ _ _ _ _

theorem step_xfer (s : Rx) (k : Key) (total off : Nat) (chunk : Bytes) :
    step s (.xfer k total off chunk) =
      match getX k s.frags with
      | some x => if total ≠ x.total then s else applyFrag s k x off chunk
      | none => applyFrag s k ⟨total, [], List.replicate total 0⟩ off chunk := by
  simp only [step, recvTransfer]
  cases getX k s.frags with
  | none => rfl
  | some x => by_cases h : total ≠ x.total <;> simp [h]

theorem step_xfer_cases (s : Rx) (k : Key) (total off : Nat) (chunk : Bytes) :
    step s (.xfer k total off chunk) = s ∨
    ∃ x, x.total = total ∧ step s (.xfer k total off chunk) = applyFrag s k x off chunk := by
  rw [step_xfer]
  cases getX k s.frags with
  | none => exact Or.inr ⟨_, rfl, rfl⟩
  | some x =>
    by_cases h : total ≠ x.total
    · exact Or.inl (if_pos h)
    · exact Or.inr ⟨x, (Decidable.not_not.mp h).symm, if_neg h⟩

def LenOK (s : Rx) : Prop :=
  (∀ e ∈ s.frags, e.2.total < 2 ^ 64) ∧ (∀ e ∈ s.queue, e.2.length < 2 ^ 64)

theorem mem_delX {k : Key} {l : List (Key × Xfer)} {e : Key × Xfer} (h : e ∈ delX k l) : e ∈ l := by
  induction l with
  | nil => cases h
  | cons a l ih =>
    obtain ⟨k', x⟩ := a
    unfold delX at h
    split at h
    · exact List.mem_cons_of_mem _ (ih h)
    · rcases List.mem_cons.mp h with h | h
      · rw [h]; exact List.mem_cons_self
      · exact List.mem_cons_of_mem _ (ih h)

theorem addRx_lenOK {s : Rx} {q : QItem} (hs : LenOK s) (hq : q.length < 2 ^ 64) :
    LenOK (addRx s q) := by
  refine ⟨hs.1, fun e he => ?_⟩
  rcases List.mem_append.mp he with h | h
  · exact hs.2 e h
  · rw [List.mem_singleton.mp h]; exact hq

theorem applyFrag_lenOK (s : Rx) (k : Key) (x : Xfer) (off : Nat) (chunk : Bytes)
    (hs : LenOK s) (hx : x.total < 2 ^ 64) : LenOK (applyFrag s k x off chunk) := by
  unfold applyFrag
  split
  · exact addRx_lenOK (s := { s with frags := delX k s.frags })
      ⟨fun e he => hs.1 e (mem_delX he), hs.2⟩ hx
  · refine ⟨fun e he => ?_, hs.2⟩
    rcases List.mem_cons.mp he with h | h
    · rw [h]; exact hx
    · exact hs.1 e (mem_delX h)

theorem step_lenOK {s : Rx} {e : Ev} {n : Nat} (hs : LenOK s) (he : EvBound n e)
    (hn : n < 2 ^ 64) : LenOK (step s e) := by
  cases e with
  | bundle a p d => exact addRx_lenOK hs (Nat.lt_of_le_of_lt he hn)
  | xfer k total off chunk =>
    rcases step_xfer_cases s k total off chunk with h | ⟨x, hx, h⟩
    · rw [h]; exact hs
    · rw [h]; exact applyFrag_lenOK _ _ _ _ _ hs (hx ▸ he)

theorem recvDatagram_lenOK (rej : Bool) (s : Rx) (addr : String) (port : Nat) (data : Bytes)
    (hs : LenOK s) (hd : data.length < 2 ^ 64) : LenOK (recvDatagram rej s addr port data).1 := by
  obtain ⟨evs, h, hb⟩ := recvDatagram_run rej s addr port data
  rw [h]
  exact evs.foldlRecOn step hs fun s hs e he => step_lenOK hs (hb e he) hd

end Udpcl
end DtnVerif
