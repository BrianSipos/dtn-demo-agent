/-
  The TX callback stays registered while there is something to write: whenever the endpoint is open
  and one of its two transmit buffers is non-empty, at least one GLib source whose callback is
  `_avail_tx_notls` is installed (so a `pump` event is enabled); and the two bookkeeping flags
  (`__avail_tx_notls_id`, `__avail_tx_notls_pend`) are only set while such a source exists.
-/
import DtnVerif.Lemmas.TcpclTr
namespace DtnVerif
namespace Tcpcl

def TSok (e : Ep) : Prop :=
  ((e.txWatch = true ∨ e.txIdle = true) → 0 < e.txSrc)
  ∧ (e.closed = false → (e.txBuf ≠ [] ∨ e.connBuf ≠ []) → 0 < e.txSrc)

theorem TSok.flag {e : Ep} (h : TSok e) : (e.txWatch = true ∨ e.txIdle = true) → 0 < e.txSrc := h.1
theorem TSok.buf {e : Ep} (h : TSok e) : e.closed = false → (e.txBuf ≠ [] ∨ e.connBuf ≠ []) → 0 < e.txSrc := h.2

structure TsView where
  closed : Bool
  txBuf : Bytes
  connBuf : Bytes
  txWatch : Bool
  txIdle : Bool
  txSrc : Nat

def Ep.tsView (e : Ep) : TsView := ⟨e.closed, e.txBuf, e.connBuf, e.txWatch, e.txIdle, e.txSrc⟩

theorem ts_of_view {e e' : Ep} (h : e'.tsView = e.tsView) (hi : TSok e) : TSok e' := by
  simp only [Ep.tsView, TsView.mk.injEq] at h
  obtain ⟨h1, h2, h3, h4, h5, h6⟩ := h
  exact ⟨by rw [h4, h5, h6]; exact hi.flag, by rw [h1, h2, h3, h6]; exact hi.buf⟩

theorem ts_closed {e : Ep} (hc : e.closed = true) (h1 : e.txWatch = false) (h2 : e.txIdle = false) : TSok e :=
  ⟨(by rw [h1, h2]; intro h; rcases h with h | h <;> cases h), (by rw [hc]; intro h; cases h)⟩

theorem ts_pos {e : Ep} (h : 0 < e.txSrc) : TSok e := ⟨fun _ => h, fun _ _ => h⟩

@[simp] theorem t6_kaReset (e : Ep) : (kaReset e).tsView = e.tsView := rfl
@[simp] theorem t6_idleReset (e : Ep) : (idleReset e).tsView = e.tsView := rfl
@[simp] theorem t6_pqTrigger (e : Ep) : (pqTrigger e).tsView = e.tsView := by
  unfold pqTrigger; split <;> rfl
@[simp] theorem t6_sendBufferDecreased (e : Ep) : (sendBufferDecreased e).tsView = e.tsView := by
  unfold sendBufferDecreased; split
  · exact t6_pqTrigger e
  · rfl

/-- handing a message over installs whichever of the two sources is missing -/
theorem src_sent (e : Ep) (m : Msg) (hi : TSok e) : 0 < (e.sent m).txSrc := by
  show 0 < e.txSrc + (if e.txWatch then 0 else 1) + (if e.txIdle then 0 else 1)
  cases hw : e.txWatch
  · simp only [Bool.false_eq_true, if_false]; omega
  · have := hi.flag (Or.inl hw); omega

theorem ts_sent (e : Ep) (m : Msg) (hi : TSok e) : TSok (e.sent m) :=
  ts_pos (src_sent e m hi)

/-- outside the TX callback the buffers only grow, by emissions, each of which sees to its sources;
    closing clears the flags -/
theorem ts_tr {k : Kind} {a b : Ep} (h : Tr k a b) (hk : k ≠ .pump) (hi : TSok a) : TSok b := by
  cases h with
  | move | write | txSched => exact absurd rfl hk
  | close _ _ => exact ts_closed rfl rfl rfl
  | contact => exact ts_pos (src_sent a (.contact 0) hi)
  | init => exact ts_sent a (.sessInit a.cfg.keepalive a.cfg.segMru sizeMax a.cfg.nodeId (sessionExt a.cfg)) hi
  | term _ f r _ => exact ts_sent a (.sessTerm f r) hi
  | kaFire _ _ => exact ts_sent { a with kaDeadline := none } .keepalive hi
  | segMid _ it sent f x d n _ _ => exact ts_pos (src_sent a (.xferSegment f it.tid x d) hi)
  | segEnd _ it sent f x d _ _ => exact ts_pos (src_sent a (.xferSegment f it.tid x d) hi)
  | reject _ r m => exact ts_sent (a.proc m) (.msgReject m.type r) hi
  | rxMid _ f t x d cur _ _ _ =>
    exact ts_sent { a.proc (.xferSegment f t x d) with rxTmp := some (t, cur ++ d) } (.xferAck f t (cur ++ d).length) hi
  | rxEnd _ f t x d cur _ _ _ =>
    exact ts_pos (src_sent (a.proc (.xferSegment f t x d)) (.xferAck f t (cur ++ d).length) hi)
  | _ => exact hi

theorem Reach.tsok {k : Kind} {a b : Ep} (h : Reach k a b) (hk : k ≠ .pump) (hi : TSok a) : TSok b :=
  h.inv (fun _ _ _ t hs => ts_tr t (Kind.ne_of_sub hs hk (.inr (.inl rfl)))) hi

/-! The TX callback, seen through `tsView`: it moves `k` octets from `txBuf` to `connBuf` and `j` on to the
    socket, and may close the endpoint afterwards; it touches neither the flags nor the source count. -/

def TsView.moved (v : TsView) (k j : Nat) : TsView :=
  { v with txBuf := v.txBuf.drop k, connBuf := (v.connBuf ++ v.txBuf.take k).drop j }

def TsView.shut (v : TsView) : TsView := { v with closed := true, txWatch := false, txIdle := false, txSrc := 0 }

theorem t6_checkSessTerm (x : Ep) :
    (checkSessTerm x).1.tsView = x.tsView ∨ (checkSessTerm x).1.tsView = x.tsView.shut := by
  unfold checkSessTerm; split
  · unfold doClose; split
    · exact .inl rfl
    · exact .inr rfl
  · exact .inl rfl

theorem t6_pullTx (e : Ep) : ∃ k, (pullTx e).tsView = e.tsView.moved k 0 := by
  unfold pullTx; split
  · exact ⟨chunkSize, (t6_sendBufferDecreased _).trans rfl⟩
  · exact ⟨0, by simp [Ep.tsView, TsView.moved]⟩

theorem t6_writeConn (e : Ep) (n : Nat) (up : Bool) :
    ∃ j, (writeConn e n up).1.tsView = e.tsView.moved 0 j ∨ (writeConn e n up).1.tsView = (e.tsView.moved 0 j).shut := by
  have h0 : e.tsView.moved 0 0 = e.tsView := by simp [Ep.tsView, TsView.moved]
  unfold writeConn
  split
  · split
    · exact ⟨0, by rw [h0]; exact t6_checkSessTerm e⟩
    · exact ⟨0, .inl h0.symm⟩
  · simp only []
    split
    · exact ⟨0, .inl h0.symm⟩
    · refine ⟨min n (e.connBuf.take chunkSize).length, ?_⟩
      split
      · have := t6_checkSessTerm { e with
          connBuf := e.connBuf.drop (min n (e.connBuf.take chunkSize).length),
          accepted := e.accepted ++ (e.connBuf.take chunkSize).take (min n (e.connBuf.take chunkSize).length) }
        simpa [Ep.tsView, TsView.moved] using this
      · exact .inl (by simp [Ep.tsView, TsView.moved])

theorem t6_pump (e : Ep) (n : Nat) :
    ∃ k j, (pump e n).1.tsView = e.tsView.moved k j ∨ (pump e n).1.tsView = (e.tsView.moved k j).shut := by
  obtain ⟨k, hk⟩ := t6_pullTx e
  obtain ⟨j, hj⟩ := t6_writeConn (pullTx e) n (upEmpty e)
  have : (e.tsView.moved k 0).moved 0 j = e.tsView.moved k j := by simp [TsView.moved]
  rw [hk, this] at hj
  exact ⟨k, j, hj⟩

theorem pump_closed_or_src (e : Ep) (n : Nat) : (pump e n).1.closed = true ∨ (pump e n).1.txSrc = e.txSrc := by
  obtain ⟨k, j, h | h⟩ := t6_pump e n
  · exact .inr (congrArg TsView.txSrc h)
  · exact .inl (congrArg TsView.closed h)

theorem ts_pump (e : Ep) (n : Nat) (hi : TSok e) : TSok (pump e n).1 := by
  obtain ⟨k, j, h | h⟩ := t6_pump e n
  · simp only [Ep.tsView, TsView.moved, TsView.mk.injEq] at h
    obtain ⟨h1, h2, h3, h4, h5, h6⟩ := h
    refine ⟨by rw [h4, h5, h6]; exact hi.flag, ?_⟩
    rw [h1, h2, h3, h6]
    intro hc hb
    apply hi.buf hc
    -- what is left in the buffers was in them before
    by_cases hb1 : e.txBuf = []
    · right; intro hb2; rw [hb1, hb2] at hb; simp at hb
    · exact .inl hb1
  · exact ts_closed (congrArg TsView.closed h) (congrArg TsView.txWatch h) (congrArg TsView.txIdle h)

/-- the flags are cleared and the source is counted out only when the callback found nothing to pull
    and nothing left to write -/
theorem ts_pumpStep (e : Ep) (n : Nat) (hsrc : e.txSrc ≠ 0) :
    let p := (pump { e with txIdle := false } n).1
    let cont := p.closed || !p.connBuf.isEmpty || !upEmpty e
    TSok { p with txWatch := p.txWatch && cont, txSrc := if cont then p.txSrc else p.txSrc - 1 } := by
  intro p cont
  have hp : TSok p := ts_pump { e with txIdle := false } n (ts_pos (Nat.pos_of_ne_zero hsrc))
  cases hcont : cont
  · -- nothing pulled, nothing left: both buffers are empty and both flags end up clear
    simp only [cont, Bool.or_eq_false_iff, Bool.not_eq_false', List.isEmpty_iff, upEmpty, Bool.and_eq_true,
      decide_eq_true_eq] at hcont
    obtain ⟨⟨hcl, hcb⟩, _, htb⟩ := hcont
    obtain ⟨k, j, h | h⟩ := t6_pump { e with txIdle := false } n
    · have hidle : p.txIdle = false := congrArg TsView.txIdle h
      have hbuf : p.txBuf = [] := (congrArg TsView.txBuf h).trans (by simp [TsView.moved, Ep.tsView, htb])
      refine ⟨fun hf => ?_, fun _ hb => ?_⟩
      · rcases hf with hf | hf
        · simp at hf
        · exact absurd (hidle.symm.trans hf) nofun
      · rcases hb with hb | hb
        · exact absurd hbuf hb
        · exact absurd hcb hb
    · exact absurd (hcl.symm.trans (congrArg TsView.closed h)) nofun
  · exact ts_of_view (by simp only [Ep.tsView, Bool.and_true, if_true]) hp

theorem ts_step (e : Ep) (ev : Ev) (hi : TSok e) : TSok (step e ev).1 := by
  cases ev with
  | pump n =>
    unfold step
    simp only []
    split
    · exact hi
    · split
      · exact hi
      · rename_i hsrc
        exact ts_pumpStep e n (by simpa using hsrc)
  | _ => exact (step_reach e _).tsok (by exact nofun) hi

theorem ts_init (cfg : Cfg) : TSok { cfg := cfg } :=
  ⟨(by intro h; rcases h with h | h <;> cases h), (by intro _ h; rcases h with h | h <;> exact absurd rfl h)⟩

theorem ts_run (evs : List Ev) (e : Ep) (hi : TSok e) : TSok (runEp e evs) :=
  run_inv ts_step evs e hi

end Tcpcl
end DtnVerif
