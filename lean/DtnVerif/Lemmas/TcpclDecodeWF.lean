/-
  Whatever octets arrive, every message the framing layer hands to `recv_message` has in-range fields
  (`Msg.WF`: what fits the fixed-width wire fields), and the data it carries was really received: the
  data octets of the messages extracted from a buffer are no more than the octets consumed.
-/
import DtnVerif.Lemmas.TcpclFeed
namespace DtnVerif
namespace Tcpcl

def dataLen : Msg → Nat
  | .xferSegment _ _ _ d => d.length
  | _ => 0

theorem bind_takeBytes_some {β} {k : Nat} {f : Bytes → P β} {b r : Bytes} {y : β}
    (h : ((takeBytes k).bind f) b = some (y, r)) :
    ∃ d r1, d.length = k ∧ r1.length + k = b.length ∧ f d r1 = some (y, r) := by
  obtain ⟨d, r1, h1, h2⟩ := bind_some _ _ _ _ _ h
  obtain ⟨hk, rfl⟩ := takeBytes_eq_some.mp h1
  exact ⟨d, r1, hk, by rw [List.length_append]; omega, h2⟩

theorem bind_takeNat_some {β} {k : Nat} {f : Nat → P β} {b r : Bytes} {y : β}
    (h : ((takeNat k).bind f) b = some (y, r)) :
    ∃ n r1, n < 256 ^ k ∧ r1.length + k = b.length ∧ f n r1 = some (y, r) := by
  rw [takeNat_bind] at h
  obtain ⟨d, r1, hk, hl, hf⟩ := bind_takeBytes_some h
  exact ⟨beNat d, r1, hk ▸ beNat_lt d, hl, hf⟩

theorem parseBody_wf (t : Nat) :
    ∀ (b : Bytes) (m : Msg) (r : Bytes), parseBody t b = some (m, r) →
      m.WF ∧ dataLen m + r.length ≤ b.length := by
  refine parseBody_cases (Q := fun p => ∀ b m r, p b = some (m, r) →
    m.WF ∧ dataLen m + r.length ≤ b.length) t ?seg ?ack ?refuse ?ka ?term ?rej ?init nofun
    <;> intro b m r h
  case seg =>
    unfold pSegment at h
    obtain ⟨flags, r1, f1, l1, h⟩ := bind_takeNat_some h
    obtain ⟨tid, r2, f2, l2, h⟩ := bind_takeNat_some h
    split at h
    · rename_i hst
      obtain ⟨es, r3, f3, l3, h⟩ := bind_takeNat_some h
      obtain ⟨ext, r4, f4, l4, h⟩ := bind_takeBytes_some h
      obtain ⟨len, r5, f5, l5, h⟩ := bind_takeNat_some h
      obtain ⟨data, r6, f6, l6, h⟩ := bind_takeBytes_some h
      obtain ⟨rfl, rfl⟩ := pure_some h
      exact ⟨⟨f1, f2, f4 ▸ f3, f6 ▸ f5, fun hn => absurd (hst.symm.trans hn) nofun⟩,
        by simp only [dataLen]; omega⟩
    · obtain ⟨len, r5, f5, l5, h⟩ := bind_takeNat_some h
      obtain ⟨data, r6, f6, l6, h⟩ := bind_takeBytes_some h
      obtain ⟨rfl, rfl⟩ := pure_some h
      exact ⟨⟨f1, f2, by decide, f6 ▸ f5, fun _ => rfl⟩, by simp only [dataLen]; omega⟩
  case ack =>
    unfold pAck at h
    obtain ⟨flags, r1, f1, l1, h⟩ := bind_takeNat_some h
    obtain ⟨tid, r2, f2, l2, h⟩ := bind_takeNat_some h
    obtain ⟨len, r3, f3, l3, h⟩ := bind_takeNat_some h
    obtain ⟨rfl, rfl⟩ := pure_some h
    exact ⟨⟨f1, f2, f3⟩, by simp only [dataLen]; omega⟩
  case refuse =>
    unfold pRefuse at h
    obtain ⟨reason, r1, f1, l1, h⟩ := bind_takeNat_some h
    obtain ⟨tid, r2, f2, l2, h⟩ := bind_takeNat_some h
    obtain ⟨rfl, rfl⟩ := pure_some h
    exact ⟨⟨f1, f2⟩, by simp only [dataLen]; omega⟩
  case ka =>
    obtain ⟨rfl, rfl⟩ := pure_some h
    exact ⟨trivial, Nat.le_of_eq (Nat.zero_add _)⟩
  case term =>
    unfold pTerm at h
    obtain ⟨flags, r1, f1, l1, h⟩ := bind_takeNat_some h
    obtain ⟨reason, r2, f2, l2, h⟩ := bind_takeNat_some h
    obtain ⟨rfl, rfl⟩ := pure_some h
    exact ⟨⟨f1, f2⟩, by simp only [dataLen]; omega⟩
  case rej =>
    unfold pReject at h
    obtain ⟨rid, r1, f1, l1, h⟩ := bind_takeNat_some h
    obtain ⟨reason, r2, f2, l2, h⟩ := bind_takeNat_some h
    obtain ⟨rfl, rfl⟩ := pure_some h
    exact ⟨⟨f1, f2⟩, by simp only [dataLen]; omega⟩
  case init =>
    unfold pInit at h
    obtain ⟨ka, r1, f1, l1, h⟩ := bind_takeNat_some h
    obtain ⟨sm, r2, f2, l2, h⟩ := bind_takeNat_some h
    obtain ⟨xm, r3, f3, l3, h⟩ := bind_takeNat_some h
    obtain ⟨nl, r4, f4, l4, h⟩ := bind_takeNat_some h
    obtain ⟨node, r5, f5, l5, h⟩ := bind_takeBytes_some h
    obtain ⟨es, r6, f6, l6, h⟩ := bind_takeNat_some h
    obtain ⟨ext, r7, f7, l7, h⟩ := bind_takeBytes_some h
    obtain ⟨rfl, rfl⟩ := pure_some h
    exact ⟨⟨f1, f2, f3, f5 ▸ f4, f7 ▸ f6⟩, by simp only [dataLen]; omega⟩

theorem probe_wf {ic : Bool} {buf : Bytes} {m : Msg} {n : Nat} (h : probe ic buf = .got m n) :
    m.WF ∧ dataLen m ≤ n := by
  cases ic with
  | false =>
    obtain ⟨_, _, _, _, _, f, _, _, _, rfl, rfl⟩ := probe_false_got h
    exact ⟨f.toNat_lt, Nat.zero_le _⟩
  | true =>
    obtain ⟨t, rest, r, rfl, _, hpb, rfl⟩ := probe_true_got h
    obtain ⟨hw, hl⟩ := parseBody_wf _ _ _ _ hpb
    exact ⟨hw, by omega⟩

def sumData (ms : List Msg) : Nat := (ms.map dataLen).sum

@[simp] theorem sumData_nil : sumData [] = 0 := rfl
theorem sumData_cons (m : Msg) (ms : List Msg) : sumData (m :: ms) = dataLen m + sumData ms := rfl
@[simp] theorem sumData_append (a b : List Msg) : sumData (a ++ b) = sumData a + sumData b := by
  simp [sumData, List.sum_append]

theorem drain_wf (rx : Rx) :
    (∀ m ∈ (drain rx).2, m.WF) ∧ sumData (drain rx).2 + (drain rx).1.buf.length ≤ rx.buf.length := by
  induction rx using drain_induction with
  | dead rx h => rw [drain_dead rx h]; exact ⟨nofun, Nat.le_of_eq (Nat.zero_add _)⟩
  | need rx _ hp => rw [drain_need rx hp]; exact ⟨nofun, Nat.le_of_eq (Nat.zero_add _)⟩
  | bad rx hd hp => rw [drain_bad rx hd hp]; exact ⟨nofun, Nat.zero_le _⟩
  | got rx m n hd hp ih =>
    obtain ⟨hw, hdl⟩ := probe_wf hp
    obtain ⟨_, hle, _⟩ := probe_got hp
    obtain ⟨i1, i2⟩ := ih
    rw [drain_got rx hd m n hp]
    refine ⟨List.forall_mem_cons.mpr ⟨hw, i1⟩, ?_⟩
    simp only [List.length_drop] at i2
    simp only [sumData_cons]
    omega

theorem feed_wf (rx : Rx) (chunk : Bytes) :
    (∀ m ∈ (feed rx chunk).2, m.WF)
    ∧ sumData (feed rx chunk).2 + (feed rx chunk).1.buf.length ≤ rx.buf.length + chunk.length := by
  cases hd : rx.dead with
  | true => rw [feed_dead rx chunk hd]; exact ⟨nofun, by simp⟩
  | false =>
    rw [feed_alive rx chunk hd, ← List.length_append]
    exact drain_wf { rx with buf := rx.buf ++ chunk }

end Tcpcl
end DtnVerif
