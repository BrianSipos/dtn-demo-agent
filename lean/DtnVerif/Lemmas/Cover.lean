import DtnVerif.Model.Cover
namespace DtnVerif
namespace Cover

theorem coveredAtB_iff (rs : List Range) (i : Nat) : coveredAtB rs i = true ↔ coveredAt rs i := by
  simp [coveredAtB, coveredAt, List.any_eq_true]

theorem coveredB_iff (rs : List Range) (total : Nat) : coveredB rs total = true ↔ covered rs total := by
  constructor
  · intro h
    simp only [coveredB, List.all_eq_true] at h
    have hc : ∀ c, c ∈ (0 :: rs.map (fun r => r.1 + r.2)) → c < total → coveredAt rs c := by
      intro c hm hlt
      have := h c hm
      simp [hlt] at this
      exact (coveredAtB_iff rs c).1 this
    intro i
    induction i with
    | zero => intro h0; exact hc 0 (by simp) h0
    | succ n ih =>
      intro hn
      obtain ⟨r, hr, h1, h2⟩ := ih (by omega)
      by_cases hlt : n + 1 < r.1 + r.2
      · exact ⟨r, hr, by omega, hlt⟩
      · have he : n + 1 = r.1 + r.2 := by omega
        apply hc (n + 1) _ hn
        rw [he]
        exact List.mem_cons_of_mem _ (List.mem_map.2 ⟨r, hr, rfl⟩)
  · intro h
    simp only [coveredB, List.all_eq_true]
    intro c _
    by_cases hlt : c < total
    · simp [hlt]; exact (coveredAtB_iff rs c).2 (h c hlt)
    · simp [hlt]

theorem withinB_iff (rs : List Range) (total : Nat) : withinB rs total = true ↔ within rs total := by
  simp only [withinB, within, List.all_eq_true, Bool.or_eq_true, beq_iff_eq, decide_eq_true_eq,
    Decidable.or_iff_not_imp_left, ne_eq]

theorem exactB_iff (rs : List Range) (total : Nat) : exactB rs total = true ↔ exact rs total := by
  simp [exactB, exact, coveredB_iff, withinB_iff]

theorem covered_mono {rs rs' : List Range} (h : ∀ r, r ∈ rs → r ∈ rs') (t : Nat) :
    covered rs t → covered rs' t := by
  intro hc i hi
  obtain ⟨r, hr, hh⟩ := hc i hi
  exact ⟨r, h r hr, hh⟩

theorem covered_congr {rs rs' : List Range} (h : ∀ r, r ∈ rs ↔ r ∈ rs') (t : Nat) :
    covered rs t ↔ covered rs' t :=
  ⟨covered_mono (fun r => (h r).1) t, covered_mono (fun r => (h r).2) t⟩

theorem within_congr {rs rs' : List Range} (h : ∀ r, r ∈ rs ↔ r ∈ rs') (t : Nat) :
    within rs t ↔ within rs' t :=
  ⟨fun hw r hr => hw r ((h r).2 hr), fun hw r hr => hw r ((h r).1 hr)⟩

theorem exact_congr {rs rs' : List Range} (h : ∀ r, r ∈ rs ↔ r ∈ rs') (t : Nat) :
    exact rs t ↔ exact rs' t := by
  simp [exact, covered_congr h t, within_congr h t]

theorem covered_perm {rs rs' : List Range} (h : rs.Perm rs') (t : Nat) : covered rs t ↔ covered rs' t :=
  covered_congr (fun _ => h.mem_iff) t

theorem covered_dup (r : Range) (rs : List Range) (hr : r ∈ rs) (t : Nat) :
    covered (r :: rs) t ↔ covered rs t :=
  covered_congr (fun x => by simp; intro hx; exact hx ▸ hr) t

end Cover
end DtnVerif
