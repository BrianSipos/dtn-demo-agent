/-
  Acknowledgement causality in the two-endpoint system: at every reachable state the acknowledgements
  one side has processed are a prefix of what the ideal receiver owes for the segments that side has
  emitted (alignment), hence the endpoint invariant `CI` holds on both sides — in particular neither
  endpoint ever emits a MSG_REJECT.
-/
import DtnVerif.Lemmas.TcpclCausal
import DtnVerif.Lemmas.TcpclSysLift
namespace DtnVerif
namespace Tcpcl

theorem specAcks_prefix {a b : List Msg} (h : a <+: b) : specAcks a <+: specAcks b := by
  obtain ⟨t, rfl⟩ := h
  have gen : ∀ s : RxSpec, specAcksFrom s a <+: specAcksFrom s (a ++ t) := by
    induction a with
    | nil => intro s; exact List.nil_prefix
    | cons x a ih => intro s; exact (List.prefix_append_right_inj _).mpr (ih _)
  exact gen {}

theorem aligned_of (w r : Ep) (hw : EpInv w) (hrA : AckSeqInv r) (t1 : w.processed <+: r.emitted)
    (t2 : r.processed <+: w.emitted) : (acksOf w.processed).map ackInfo <+: segInfo w.emitted := by
  have h1 : acksOf w.processed <+: acksOf r.emitted := acksOf_prefix t1
  have h2 : acksOf r.emitted = specAcks r.processed := hrA
  have h3 : specAcks r.processed <+: specAcks w.emitted := specAcks_prefix t2
  have h4 : (specAcks w.emitted).map ackInfo = segInfo w.emitted := owed_info_legal _ (emitted_legal hw)
  rw [h2] at h1
  rw [← h4]
  exact List.IsPrefix.map ackInfo (List.IsPrefix.trans h1 h3)

theorem CI.no_rej {e : Ep} (h : CI e) : ∀ m ∈ e.emitted, m.isRej = false := by
  intro m hm
  simpa using List.filter_eq_nil_iff.mp h.norej m hm

structure CS (s : Sys) : Prop where
  qa : QInv s.a
  qb : QInv s.b
  ka : AckSeqInv s.a
  kb : AckSeqInv s.b
  ca : CI s.a
  cb : CI s.b

theorem aligned_sys {s : Sys} (hi : SysInv s) (hwf : SysWF s) (ka : AckSeqInv s.a) (kb : AckSeqInv s.b) :
    (acksOf s.a.processed).map ackInfo <+: segInfo s.a.emitted
    ∧ (acksOf s.b.processed).map ackInfo <+: segInfo s.b.emitted := by
  obtain ⟨tB, tA⟩ := transport s hi hwf
  exact ⟨aligned_of s.a s.b hi.ia kb tA tB, aligned_of s.b s.a hi.ib ka tB tA⟩

/-- one endpoint moves: the conditions `CI` needs are supplied by the invariants of the state *after* the move -/
theorem ci_move (w : Ep) (ev : Ev) (hw : EpInv w) (hw' : EpInv (step w ev).1) (hq : QInv w) (hc : CI w)
    (hal : (acksOf w.processed).map ackInfo <+: segInfo w.emitted)
    (hal' : (acksOf (step w ev).1.processed).map ackInfo <+: segInfo (step w ev).1.emitted) :
    CI (step w ev).1 := by
  obtain ⟨P, hP⟩ := hw.tx
  by_cases hrx : ∃ c, ev = .rx c
  · obtain ⟨c, rfl⟩ := hrx
    cases hcl : w.closed with
    | true =>
      obtain ⟨n, m, s, p, h⟩ := step_closed w (.rx c) hcl
      rw [h]
      exact hc.of_cv rfl
    | false =>
      rw [step_rx w c hcl] at hw' hal' ⊢
      obtain ⟨P', hP'⟩ := hw'.tx
      rw [si_recvRaw] at hal'
      exact ci_recvRaw w c P hc hq hw.rx hP hP'.processed_legal hw'.okProc hal'
  · exact ci_step_local w ev (fun c h => hrx ⟨c, h⟩) (by simpa [nAcks] using hal.length_le) hc

theorem cs_step (s : Sys) (ev : SysEv) (hi : SysInv s) (hwf : SysWF s) (hwf' : SysWF (sysStep s ev))
    (hs : ev.sendOK) (h : CS s) : CS (sysStep s ev) := by
  have hi' : SysInv (sysStep s ev) := sysInv_step s ev hi hwf hs
  obtain ⟨qa', qb'⟩ := sys_lift_step QInv (fun e ev hq => hq.step e ev) s ev ⟨h.qa, h.qb⟩
  obtain ⟨ka', kb'⟩ := sys_lift_step (fun e => RxInv e ∧ AckSeqInv e)
    (fun e ev hh => ⟨rxInv_step e ev hh.1, ackSeq_step e ev hh.1 hh.2⟩) s ev ⟨⟨hi.ia.rx, h.ka⟩, ⟨hi.ib.rx, h.kb⟩⟩
  obtain ⟨alA, alB⟩ := aligned_sys hi hwf h.ka h.kb
  have al' := aligned_sys hi' hwf' ka'.2 kb'.2
  have hc : CI (sysStep s ev).a ∧ CI (sysStep s ev).b := by
    rcases sysStep_cases s ev with h0 | ⟨e, p, _, _, h1⟩ | ⟨e, p, _, _, h1⟩
    · rw [h0]; exact ⟨h.ca, h.cb⟩
    · rw [h1] at hi' al' ⊢
      exact ⟨ci_move s.a e hi.ia hi'.ia h.qa h.ca alA al'.1, h.cb⟩
    · rw [h1] at hi' al' ⊢
      exact ⟨h.ca, ci_move s.b e hi.ib hi'.ib h.qb h.cb alB al'.2⟩
  exact ⟨qa', qb', ka'.2, kb'.2, hc.1, hc.2⟩

theorem cs_init (cfgA cfgB : Cfg) : CS (initSys cfgA cfgB) :=
  ⟨(QInv.init cfgA).step _ _, (QInv.init cfgB).step _ _,
    ackSeq_step _ _ (rxInv_init cfgA) (ackSeq_init cfgA), ackSeq_step _ _ (rxInv_init cfgB) (ackSeq_init cfgB),
    ci_step_local _ _ (by intro c h; cases h) (by simp [nAcks, acksOf]) (ci_init cfgA),
    ci_step_local _ _ (by intro c h; cases h) (by simp [nAcks, acksOf]) (ci_init cfgB)⟩

theorem cs_reach (cfgA cfgB : Cfg) (sch : List SysEv)
    (a1 : 0 < cfgA.segInit) (a2 : cfgA.privExt = false) (a3 : 0 < cfgA.segMru)
    (b1 : 0 < cfgB.segInit) (b2 : cfgB.privExt = false) (b3 : 0 < cfgB.segMru)
    (hwf : ∀ pre, pre <+: sch → SysWF (runSys (initSys cfgA cfgB) pre))
    (hs : ∀ ev ∈ sch, ev.sendOK) :
    SysInv (runSys (initSys cfgA cfgB) sch) ∧ CS (runSys (initSys cfgA cfgB) sch) :=
  runSys_induct CS cs_step sch _ (sysInv_init cfgA cfgB a1 a2 a3 b1 b2 b3) (cs_init cfgA cfgB) hwf hs

end Tcpcl
end DtnVerif
