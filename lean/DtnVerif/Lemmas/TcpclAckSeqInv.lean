/-
  The XFER_ACK messages an endpoint has emitted are, in order and one for one, the acknowledgements
  the ideal receiver owes for the segments it has processed (same flags, same id, cumulative length).
-/
import DtnVerif.Lemmas.TcpclAckSeq
import DtnVerif.Lemmas.TcpclEcho
import DtnVerif.Lemmas.TcpclSucc
namespace DtnVerif
namespace Tcpcl

def specAcksFrom (s : RxSpec) : List Msg → List Msg
  | [] => []
  | m :: ms => (ackOfStep s m).toList ++ specAcksFrom (rxSpecStep s m) ms

def specAcks (ms : List Msg) : List Msg := specAcksFrom {} ms

theorem specAcksFrom_append (s : RxSpec) (p : List Msg) (m : Msg) :
    specAcksFrom s (p ++ [m]) = specAcksFrom s p ++ (ackOfStep (p.foldl rxSpecStep s) m).toList := by
  induction p generalizing s with
  | nil => simp [specAcksFrom]
  | cons x p ih => simp [specAcksFrom, ih, List.append_assoc]

theorem specAcks_append (p : List Msg) (m : Msg) :
    specAcks (p ++ [m]) = specAcks p ++ (ackOfStep (rxSpec p) m).toList := by
  unfold specAcks rxSpec; exact specAcksFrom_append {} p m

def AckSeqInv (e : Ep) : Prop := acksOf e.emitted = specAcks e.processed

theorem ackSeq_of_eq {e e' : Ep} (h1 : acksOf e'.emitted = acksOf e.emitted) (h2 : e'.processed = e.processed)
    (hi : AckSeqInv e) : AckSeqInv e' := by
  unfold AckSeqInv at *; rw [h1, h2]; exact hi

theorem ackOfStep_rejects {e : Ep} {m : Msg} (hr : RxInv e) (h : OutOfPlace e m) : ackOfStep (rxSpec e.processed) m = none := by
  obtain ⟨_, r2, r3⟩ := hr
  cases m with
  | xferSegment f t x d =>
    simp only [ackOfStep, ← r2, ← r3]
    rcases h with h | ⟨hst, hn⟩
    · simp [h]
    · cases hr : e.rxTmp with
      | none => simp [hst]
      | some p => simp [hst, hn p.1 p.2 hr]
  | _ => rfl

theorem ackSeq_rx {a b : Ep} (m : Msg) (o : Option Msg) (hi : AckSeqInv a) (hp : b.processed = a.processed ++ [m])
    (he : acksOf b.emitted = acksOf a.emitted ++ o.toList) (ho : ackOfStep (rxSpec a.processed) m = o) : AckSeqInv b := by
  unfold AckSeqInv at *
  rw [hp, specAcks_append, he, hi, ho]

theorem ackSeq_tr {k : Kind} {a b : Ep} (h : Tr k a b) (hr : RxInv a) (hi : AckSeqInv a) : AckSeqInv b := by
  cases hk : k.recv
  · exact ackSeq_of_eq (h.acks_eq hk) (h.logs_eq hk).2 hi
  · cases h with
    | proc _ m hm => exact ackSeq_rx m none hi rfl (List.append_nil _).symm (by cases m <;> first | rfl | cases hm)
    | reject _ r m hj =>
      exact ackSeq_rx m none hi rfl (ak_sendMessage (a.proc m) (.msgReject m.type r))
        (ackOfStep_rejects hr hj)
    | merge _ p x =>
      refine ackSeq_rx (.sessInit p.keepalive p.segMru p.xferMru p.node x) none hi (proc_mergeSession _ p) ?_ rfl
      simp only [mergeSession, kaReset, idleReset, Ep.proc]
      exact (List.append_nil _).symm
    | gotTerm _ f r _ _ => exact ackSeq_rx (.sessTerm f r) none hi rfl (List.append_nil _).symm rfl
    | ackEnd _ f t l _ _ _ _ => exact ackSeq_rx (.xferAck f t l) none hi rfl (List.append_nil _).symm rfl
    | ackMid _ f t l _ _ _ => exact ackSeq_rx (.xferAck f t l) none hi rfl (List.append_nil _).symm rfl
    | rxMid _ f t x d cur hs hc _ =>
      exact ackSeq_rx (.xferSegment f t x d) (some (.xferAck f t (cur ++ d).length)) hi rfl
        (ak_sendMessage { a.proc (.xferSegment f t x d) with rxTmp := some (t, cur ++ d) } (.xferAck f t (cur ++ d).length))
        (ackOfStep_accept x d hr hs hc)
    | rxEnd _ f t x d cur hs hc _ =>
      exact ackSeq_rx (.xferSegment f t x d) (some (.xferAck f t (cur ++ d).length)) hi rfl
        (ak_sendMessage (a.proc (.xferSegment f t x d)) (.xferAck f t (cur ++ d).length)) (ackOfStep_accept x d hr hs hc)
    | refused _ r t _ _ => exact ackSeq_rx (.xferRefuse r t) none hi rfl (List.append_nil _).symm rfl
    | idleReset | rxFeed | rxMore => exact hi
    | _ => cases hk

theorem ackSeq_step (e : Ep) (ev : Ev) (hr : RxInv e) (hi : AckSeqInv e) : AckSeqInv (step e ev).1 :=
  (step_inv (P := fun e => RxInv e ∧ AckSeqInv e) (fun _ _ _ t h => ⟨rxInv_tr t h.1, ackSeq_tr t h.1 h.2⟩) e ev ⟨hr, hi⟩).2

theorem ackSeq_init (cfg : Cfg) : AckSeqInv { cfg := cfg } := rfl

end Tcpcl
end DtnVerif
