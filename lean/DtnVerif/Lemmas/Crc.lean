/- Lemmas about the block CRC operations (Model/Crc.lean): update/check, widths. -/
import DtnVerif.Model.Crc
import DtnVerif.Lemmas.Bytes
namespace DtnVerif
namespace Bp
open Crc

@[simp] theorem Primary.zeroed_crcType (p : Primary) : p.zeroed.crcType = p.crcType := rfl
@[simp] theorem Canonical.zeroed_crcType (c : Canonical) : c.zeroed.crcType = c.crcType := rfl

theorem Primary.zeroed_setCrc (p : Primary) (v : Option Bytes) :
    ({ p with crc := v } : Primary).zeroed = p.zeroed := rfl
theorem Canonical.zeroed_setCrc (c : Canonical) (v : Option Bytes) :
    ({ c with crc := v } : Canonical).zeroed = c.zeroed := rfl

theorem Primary.crcValue_setCrc (p : Primary) (v : Option Bytes) :
    ({ p with crc := v } : Primary).crcValue = p.crcValue := rfl
theorem Canonical.crcValue_setCrc (c : Canonical) (v : Option Bytes) :
    ({ c with crc := v } : Canonical).crcValue = c.crcValue := rfl

/-- The CRC slot of either block type: `check_crc` accepts exactly the slot `update_crc` writes
    (`t` the CRC type, `o` the slot, `v` the CRC of the zeroed block). -/
theorem crcSlot_check_iff (t : Nat) (o : Option Bytes) (v : Bytes) :
    (if t == 0 then o.isNone else o == some v) = true ↔ o = if t == 0 then none else some v := by
  by_cases h : t = 0 <;> simp [h]

theorem Primary.updateCrc_eq (p : Primary) :
    p.updateCrc = { p with crc := if p.crcType == 0 then none else some p.crcValue } := by
  unfold Primary.updateCrc; split <;> rfl

@[simp] theorem Primary.updateCrc_zeroed (p : Primary) : p.updateCrc.zeroed = p.zeroed := by
  rw [Primary.updateCrc_eq]; rfl

theorem Primary.checkCrc_iff {p : Primary} (h : p.crcType ≠ 0) :
    p.checkCrc = true ↔ p.crc = some p.crcValue := by
  rw [Primary.checkCrc, crcSlot_check_iff, if_neg (mt beq_iff_eq.1 h)]

theorem Primary.check_update (p : Primary) : p.updateCrc.checkCrc = true := by
  rw [Primary.updateCrc_eq]
  exact (crcSlot_check_iff p.crcType _ p.crcValue).2 rfl

theorem Primary.update_of_check (p : Primary) (h : p.checkCrc = true) : p.updateCrc = p := by
  rw [Primary.updateCrc_eq, ← (crcSlot_check_iff _ _ _).1 h]

theorem Canonical.updateCrc_eq (c : Canonical) :
    c.updateCrc = { c with crc := if c.crcType == 0 then none else some c.crcValue } := by
  unfold Canonical.updateCrc; split <;> rfl

@[simp] theorem Canonical.updateCrc_zeroed (c : Canonical) : c.updateCrc.zeroed = c.zeroed := by
  rw [Canonical.updateCrc_eq]; rfl

theorem Canonical.checkCrc_iff {c : Canonical} (h : c.crcType ≠ 0) :
    c.checkCrc = true ↔ c.crc = some c.crcValue := by
  rw [Canonical.checkCrc, crcSlot_check_iff, if_neg (mt beq_iff_eq.1 h)]

theorem Canonical.check_update (c : Canonical) : c.updateCrc.checkCrc = true := by
  rw [Canonical.updateCrc_eq]
  exact (crcSlot_check_iff c.crcType _ c.crcValue).2 rfl

theorem Canonical.update_of_check (c : Canonical) (h : c.checkCrc = true) : c.updateCrc = c := by
  rw [Canonical.updateCrc_eq, ← (crcSlot_check_iff _ _ _).1 h]

theorem crcOf_length (t : Nat) (d : Bytes) : (crcOf t d).length = crcWidth t := by
  unfold crcOf crcWidth
  split
  · simp
  · split <;> simp

theorem checkAllCrc_nil_iff (b : Bundle) :
    b.checkAllCrc = [] ↔ b.primary.checkCrc = true ∧ ∀ c ∈ b.blocks, c.checkCrc = true := by
  simp [Bundle.checkAllCrc]

theorem Bundle.check_updateAll (b : Bundle) : b.updateAllCrc.checkAllCrc = [] := by
  rw [checkAllCrc_nil_iff]
  refine ⟨Primary.check_update _, ?_⟩
  intro c hc
  obtain ⟨c0, _, rfl⟩ := List.mem_map.1 hc
  exact Canonical.check_update c0

theorem Bundle.updateAll_of_check (b : Bundle) (h : b.checkAllCrc = []) : b.updateAllCrc = b := by
  obtain ⟨hp, hc⟩ := (checkAllCrc_nil_iff b).1 h
  rw [Bundle.updateAllCrc, Primary.update_of_check _ hp,
    List.map_congr_left fun c hcm => Canonical.update_of_check c (hc c hcm), List.map_id']

end Bp
end DtnVerif
