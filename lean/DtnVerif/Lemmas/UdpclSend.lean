/- Segment sizing, the segmenting loop of `Udpcl.sendTransfer`, and counting `finished` signals
   over a concatenation. -/
import DtnVerif.Model.Udpcl
import DtnVerif.Lemmas.Cbor
namespace DtnVerif
namespace Udpcl
open Cbor

theorem encTransfer_length (id total off : Nat) (chunk : Bytes) :
    (encTransfer id total off chunk).length =
      3 + headLen id + headLen total + headLen off + headLen chunk.length + chunk.length := by
  simp only [encTransfer, List.length_append, encMapHead_length, encUint_length, encArrHead_length,
    encBstr_length]
  have h1 : headLen 1 = 1 := by decide
  have h2 : headLen 2 = 1 := by decide
  have h4 : headLen 4 = 1 := by decide
  omega

theorem extBaseEncsize_eq (id total : Nat) :
    extBaseEncsize id total = 4 + headLen id + 2 * headLen total := by
  unfold extBaseEncsize
  rw [encTransfer_length]
  have h0 : headLen 0 = 1 := by decide
  simp only [List.length_nil, h0]; omega

/-- The octets the sizing reserves for everything but the fragment data. -/
def overhead (id total : Nat) : Nat := 3 + headLen id + 3 * headLen total

theorem remainSize_eq (mtu id total : Nat) :
    remainSize mtu id total = (mtu : Int) - (overhead id total : Int) := by
  unfold remainSize dataSizeEncsize overhead
  rw [extBaseEncsize_eq, encUint_length]; omega

theorem encTransfer_le_mtu (mtu id total off : Nat) (chunk : Bytes)
    (hoff : off ≤ total) (hlen : chunk.length ≤ total)
    (hrem : (chunk.length : Int) ≤ remainSize mtu id total) :
    (encTransfer id total off chunk).length ≤ mtu := by
  rw [encTransfer_length]
  rw [remainSize_eq] at hrem
  unfold overhead at hrem
  have h1 := headLen_mono hoff
  have h2 := headLen_mono hlen
  omega

def Contig : Nat → List (Nat × Bytes) → Prop
  | _, [] => True
  | off, p :: ps => p.1 = off ∧ Contig (off + p.2.length) ps

theorem splitLoop_of_ge (data : Bytes) (remain : Nat) {off : Nat} (h : data.length ≤ off) :
    ∀ fuel, splitLoop fuel data remain off = []
  | 0 => rfl
  | f + 1 => by unfold splitLoop; rw [if_neg (Nat.not_lt.mpr h)]

theorem splitLoop_spec (data : Bytes) (remain : Nat) (hr : 0 < remain) :
    ∀ (fuel off : Nat), data.length - off < fuel →
      Contig off (splitLoop fuel data remain off) ∧
        ((splitLoop fuel data remain off).map (·.2)).flatten = data.drop off ∧
        ∀ p ∈ splitLoop fuel data remain off, 0 < p.2.length ∧ p.2.length ≤ remain := by
  intro fuel
  induction fuel with
  | zero => intro off h; omega
  | succ fuel ih =>
    intro off hf
    unfold splitLoop
    by_cases hlt : off < data.length
    · simp only [hlt, if_true]
      obtain ⟨hc, hcat, hall⟩ := ih (off + remain) (by omega)
      refine ⟨?_, ?_, ?_⟩
      · refine ⟨rfl, ?_⟩
        show Contig (off + ((data.drop off).take remain).length) _
        by_cases hfit : off + remain ≤ data.length
        · have : ((data.drop off).take remain).length = remain := by
            simp [List.length_take, List.length_drop]; omega
          rw [this]; exact hc
        · rw [splitLoop_of_ge data remain (by omega)]; trivial
      · simp only [List.map_cons, List.flatten_cons, hcat]
        rw [← List.drop_drop]
        exact List.take_append_drop remain (data.drop off)
      · intro p hp
        rcases List.mem_cons.mp hp with rfl | hp
        · simp only [List.length_take, List.length_drop]; omega
        · exact hall p hp
    · simp only [hlt, if_false]
      refine ⟨trivial, ?_, ?_⟩
      · simp [List.drop_of_length_le (Nat.le_of_not_lt hlt)]
      · intro p hp; cases hp

theorem contig_slices (data : Bytes) :
    ∀ (ps : List (Nat × Bytes)) (off : Nat), off ≤ data.length → Contig off ps →
      (ps.map (·.2)).flatten = data.drop off →
      ∀ p ∈ ps, p.1 + p.2.length ≤ data.length ∧ p.2 = (data.drop p.1).take p.2.length := by
  intro ps
  induction ps with
  | nil => intro off _ _ _ p hp; cases hp
  | cons q qs ih =>
    intro off hoff hc hcat p hp
    obtain ⟨hq, hc'⟩ := hc
    simp only [List.map_cons, List.flatten_cons] at hcat
    have hlen : q.2.length ≤ (data.drop off).length := by
      rw [← hcat]; simp
    have htake : q.2 = (data.drop off).take q.2.length := by
      rw [← hcat]; simp
    have hdrop : (qs.map (·.2)).flatten = data.drop (off + q.2.length) := by
      rw [← List.drop_drop, ← hcat]; simp
    rcases List.mem_cons.mp hp with rfl | hp
    · rw [hq]; refine ⟨?_, htake⟩
      rw [List.length_drop] at hlen
      omega
    · rw [List.length_drop] at hlen
      exact ih _ (by omega) hc' hdrop p hp

theorem contig_lower : ∀ (ps : List (Nat × Bytes)) (off : Nat), Contig off ps →
    ∀ p ∈ ps, off ≤ p.1 := by
  intro ps
  induction ps with
  | nil => intro off _ p hp; cases hp
  | cons q qs ih =>
    intro off hc p hp
    obtain ⟨hq, hc'⟩ := hc
    rcases List.mem_cons.mp hp with rfl | hp
    · omega
    · have := ih _ hc' p hp; omega

theorem contig_pairwise : ∀ (ps : List (Nat × Bytes)) (off : Nat), Contig off ps →
    ps.Pairwise (fun a b => a.1 + a.2.length ≤ b.1)
  | [], _, _ => .nil
  | _ :: qs, _, ⟨hq, hc⟩ =>
    List.pairwise_cons.mpr ⟨fun b hb => hq ▸ contig_lower qs _ hc b hb, contig_pairwise qs _ hc⟩

theorem contig_cover : ∀ (ps : List (Nat × Bytes)) (off : Nat), Contig off ps →
    ∀ i, off ≤ i → i < off + ((ps.map (·.2)).flatten).length →
      ∃ p ∈ ps, p.1 ≤ i ∧ i < p.1 + p.2.length := by
  intro ps
  induction ps with
  | nil => intro off _ i h1 h2; simp at h2; omega
  | cons q qs ih =>
    intro off hc i h1 h2
    obtain ⟨hq, hc'⟩ := hc
    simp only [List.map_cons, List.flatten_cons, List.length_append] at h2
    by_cases hi : i < off + q.2.length
    · exact ⟨q, List.mem_cons_self, by omega, by omega⟩
    · obtain ⟨p, hp, h3, h4⟩ := ih _ hc' i (by omega) (by omega)
      exact ⟨p, List.mem_cons_of_mem _ hp, h3, h4⟩

theorem finCount_append (i : Nat) (a b : List TxEvent) :
    finCount i (a ++ b) = finCount i a + finCount i b := by
  simp [finCount, List.filter_append]

theorem finCount_cons (i : Nat) (e : TxEvent) (r : List TxEvent) :
    finCount i (e :: r) =
      (match e with
        | .finished j _ _ => if j = i then 1 else 0
        | _ => 0) + finCount i r := by
  rw [show e :: r = [e] ++ r from rfl, finCount_append]
  cases e with
  | finished j l res => by_cases h : j = i <;> simp [finCount, h]
  | _ => rfl

end Udpcl
end DtnVerif
