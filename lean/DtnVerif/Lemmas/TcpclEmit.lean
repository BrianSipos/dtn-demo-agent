/-
  Shape of what an endpoint emits: never an XFER_REFUSE, its SESS_INIT announces the configured
  segment MRU and keepalive interval, and a KEEPALIVE only with a positive configured interval.
-/
import DtnVerif.Lemmas.TcpclTimer
import DtnVerif.Lemmas.TcpclKaCfg
namespace DtnVerif
namespace Tcpcl

def emitOK (cfg : Cfg) : Msg → Prop
  | .xferRefuse .. => False
  | .sessInit ka sm xm node _ => sm = cfg.segMru ∧ ka = cfg.keepalive ∧ xm = sizeMax ∧ node = cfg.nodeId
  | .keepalive => 0 < cfg.keepalive
  | _ => True

def EmitInv (e : Ep) : Prop := ∀ m ∈ e.emitted, emitOK e.cfg m

structure EmitView where
  cfg : Cfg
  emitted : List Msg

def Ep.emitView (e : Ep) : EmitView := ⟨e.cfg, e.emitted⟩

@[simp] theorem ev_kaReset (e : Ep) : (kaReset e).emitView = e.emitView := rfl
@[simp] theorem ev_idleReset (e : Ep) : (idleReset e).emitView = e.emitView := rfl

def EmitAll (ok : Cfg → Msg → Prop) (e : Ep) : Prop := ∀ m ∈ e.emitted, ok e.cfg m

theorem emitAll_of_view {ok : Cfg → Msg → Prop} {e e' : Ep} (h : e'.emitView = e.emitView) (hi : EmitAll ok e) :
    EmitAll ok e' := by
  simp only [Ep.emitView, EmitView.mk.injEq] at h
  obtain ⟨h1, h2⟩ := h
  unfold EmitAll at *
  rw [h1, h2]; exact hi

theorem emitAll_sent {ok : Cfg → Msg → Prop} (e : Ep) (m : Msg) (hi : EmitAll ok e) (hm : ok e.cfg m) :
    EmitAll ok (e.sent m) := by
  intro x hx
  simp only [Ep.sent, List.mem_append, List.mem_singleton] at hx ⊢
  rcases hx with hx | hx
  · exact hi x hx
  · subst hx; exact hm

/-- Apart from the keepalive timer's KEEPALIVE, whatever an endpoint emits satisfies `emitOK` and is no
    KEEPALIVE; so a property `ok` that follows from that is preserved by every other transaction. -/
theorem emitAll_tr {ok : Cfg → Msg → Prop} (hok : ∀ cfg m, emitOK cfg m → m ≠ .keepalive → ok cfg m) {k : Kind} {a b : Ep}
    (h : Tr k a b) (hk : k ≠ .ka) (hi : EmitAll ok a) : EmitAll ok b := by
  cases h with
  | contact => exact emitAll_of_view (e := a.sent (.contact 0)) rfl (emitAll_sent a _ hi (hok _ _ trivial nofun))
  | init =>
    exact emitAll_of_view (e := a.sent (.sessInit a.cfg.keepalive a.cfg.segMru sizeMax a.cfg.nodeId
      (sessionExt a.cfg))) rfl (emitAll_sent a _ hi (hok _ _ ⟨rfl, rfl, rfl, rfl⟩ nofun))
  | term _ f r _ => exact emitAll_sent a _ hi (hok _ _ trivial nofun)
  | kaFire _ _ => exact absurd rfl hk
  | segMid _ it sent f x d n _ _ =>
    exact emitAll_of_view (e := a.sent (.xferSegment f it.tid x d)) rfl
      (emitAll_sent a _ hi (hok _ _ trivial nofun))
  | segEnd _ it sent f x d _ _ =>
    exact emitAll_of_view (e := a.sent (.xferSegment f it.tid x d)) rfl
      (emitAll_sent a _ hi (hok _ _ trivial nofun))
  | reject _ r m _ => exact emitAll_sent _ _ hi (hok _ _ trivial nofun)
  | rxMid _ f t x d cur _ _ _ => exact emitAll_sent _ _ hi (hok _ _ trivial nofun)
  | rxEnd _ f t x d cur _ _ _ =>
    exact emitAll_of_view (e := (a.proc (.xferSegment f t x d)).sent (.xferAck f t (cur ++ d).length)) rfl
      (emitAll_sent _ _ hi (hok _ _ trivial nofun))
  | _ => exact hi

/-- `hk`: the keepalive timer is armed only if `ok` allows a KEEPALIVE; it fires from the state the step starts in -/
theorem emitAll_step {ok : Cfg → Msg → Prop} (hok : ∀ cfg m, emitOK cfg m → m ≠ .keepalive → ok cfg m) (e : Ep) (ev : Ev)
    (hi : EmitAll ok e) (hk : e.kaDeadline.isSome = true → ok e.cfg .keepalive) : EmitAll ok (step e ev).1 := by
  by_cases hev : ev = .keepaliveTimer
  · subst hev
    unfold step
    simp only []
    split
    · exact hi
    · split
      · exact hi
      · rename_i d hd
        exact emitAll_sent _ _ hi (hk (by rw [hd]; rfl))
  · exact step_inv_nonka (fun _ _ _ t hk => emitAll_tr hok t hk) e ev hev hi

theorem emitInv_step (e : Ep) (ev : Ev) (hi : EmitInv e)
    (hk : e.kaDeadline.isSome = true → 0 < e.cfg.keepalive) : EmitInv (step e ev).1 :=
  emitAll_step (fun _ _ h _ => h) e ev hi hk

theorem emitInv_init (cfg : Cfg) : EmitInv { cfg := cfg } := by
  intro m hm; simp at hm

/-- the timer is armed only while the negotiated interval is positive (`TimerInv`), which it is only
    if the configured one is (`KC`) -/
theorem emitInv_run (evs : List Ev) (e : Ep) (hi : EmitInv e) (ht : TimerInv e) (hc : KC e) :
    EmitInv (runEp e evs) :=
  (run_inv (P := fun e => EmitInv e ∧ TimerInv e ∧ KC e)
    (fun e ev h => ⟨emitInv_step e ev h.1 (fun hd => h.2.2 (h.2.1.1 hd)), timerInv_step e ev h.2.1, kc_step e ev h.2.2⟩)
    evs e ⟨hi, ht, hc⟩).1

end Tcpcl
end DtnVerif
