/-
  The message parsers are self-delimiting (`Good`, kept by the combinators, up to `good_parseBody`); what a
  parser does on the encoding of a number or an octet string; extension items decode to what was encoded.
-/
import DtnVerif.Model.TcpclCodec
import DtnVerif.Lemmas.Bytes
namespace DtnVerif
namespace Tcpcl

def Good {α} (p : P α) : Prop :=
  ∀ b a r, p b = some (a, r) →
    ∃ u, b = u ++ r ∧ (∀ x, p (u ++ x) = some (a, x)) ∧
      (∀ u', u' <+: u → u' ≠ u → p u' = none)

theorem pure_some {α} {a y : α} {b r : Bytes} (h : P.pure a b = some (y, r)) : y = a ∧ r = b := by
  unfold P.pure at h
  injection h with h
  injection h with h1 h2
  exact ⟨h1.symm, h2.symm⟩

theorem bind_some {α β} (p : P α) (f : α → P β) (b : Bytes) (y : β) (r : Bytes)
    (h : (p.bind f) b = some (y, r)) : ∃ a r1, p b = some (a, r1) ∧ f a r1 = some (y, r) := by
  unfold P.bind at h
  split at h
  · cases h
  · rename_i a r1 heq
    exact ⟨a, r1, heq, h⟩

theorem good_pure {α} (a : α) : Good (P.pure a) := by
  intro b a' r h
  obtain ⟨rfl, rfl⟩ := pure_some h
  refine ⟨[], by simp, fun x => by simp [P.pure], ?_⟩
  intro u' hp hne
  exact absurd (List.prefix_nil.mp hp) hne

theorem prefix_lt_length {u' u : Bytes} (hp : u' <+: u) (hne : u' ≠ u) : u'.length < u.length := by
  obtain ⟨t, rfl⟩ := hp
  cases t with
  | nil => simp at hne
  | cons x xs => simp

theorem takeBytes_eq_some {k : Nat} {b d r : Bytes} :
    takeBytes k b = some (d, r) ↔ d.length = k ∧ b = d ++ r := by
  constructor
  · intro h
    unfold takeBytes at h
    split at h
    · cases h
    · injection h with h
      injection h with h1 h2
      subst h1 h2
      exact ⟨by rw [List.length_take]; omega, (List.take_append_drop k b).symm⟩
  · rintro ⟨rfl, rfl⟩
    simp [takeBytes]

theorem takeNat_eq (k : Nat) (b : Bytes) :
    takeNat k b = (takeBytes k b).map fun p => (beNat p.1, p.2) := by
  unfold takeNat takeBytes
  split <;> rfl

theorem takeNat_bind {β} (k : Nat) (f : Nat → P β) :
    (takeNat k).bind f = (takeBytes k).bind fun d => f (beNat d) := by
  funext b
  unfold P.bind
  rw [takeNat_eq]
  cases takeBytes k b <;> rfl

theorem good_takeBytes (k : Nat) : Good (takeBytes k) := by
  intro b d r h
  obtain ⟨hk, rfl⟩ := takeBytes_eq_some.mp h
  refine ⟨d, rfl, fun x => takeBytes_eq_some.mpr ⟨hk, rfl⟩, fun u' hp hne => if_pos ?_⟩
  rw [← hk]
  exact prefix_lt_length hp hne

theorem good_bind {α β} (p : P α) (f : α → P β) (hp : Good p) (hf : ∀ a, Good (f a)) :
    Good (p.bind f) := by
  intro b c r h
  obtain ⟨a, r1, hpb, h⟩ := bind_some _ _ _ _ _ h
  obtain ⟨u1, hb, hext1, hpre1⟩ := hp b a r1 hpb
  obtain ⟨u2, hr1, hext2, hpre2⟩ := hf a r1 c r h
  refine ⟨u1 ++ u2, by rw [hb, hr1, List.append_assoc], ?_, ?_⟩
  · intro x
    unfold P.bind
    rw [List.append_assoc, hext1 (u2 ++ x)]
    exact hext2 x
  · intro u' hu' hne
    unfold P.bind
    by_cases hlt : u'.length < u1.length
    · -- strict prefix of u1
      have hp1 : u' <+: u1 := by
        have := List.prefix_of_prefix_length_le hu' (List.prefix_append u1 u2) (by omega)
        exact this
      have hne1 : u' ≠ u1 := by intro e; rw [e] at hlt; omega
      rw [hpre1 u' hp1 hne1]
    · -- u' = u1 ++ v with v a strict prefix of u2
      have hp1 : u1 <+: u' :=
        List.prefix_of_prefix_length_le (List.prefix_append u1 u2) hu' (by omega)
      obtain ⟨v, rfl⟩ := hp1
      have hv : v <+: u2 := by
        obtain ⟨t, ht⟩ := hu'
        rw [List.append_assoc] at ht
        exact ⟨t, List.append_cancel_left ht⟩
      have hvne : v ≠ u2 := by intro e; exact hne (by rw [e])
      rw [hext1 v]
      exact hpre2 v hv hvne

theorem good_bind_takeBytes {β} (k : Nat) {f : Bytes → P β} (hf : ∀ d, Good (f d)) :
    Good ((takeBytes k).bind f) :=
  good_bind _ _ (good_takeBytes k) hf

theorem good_bind_takeNat {β} (k : Nat) {f : Nat → P β} (hf : ∀ n, Good (f n)) :
    Good ((takeNat k).bind f) := by
  rw [takeNat_bind]
  exact good_bind_takeBytes k fun d => hf (beNat d)

theorem good_none {α} : Good (fun _ => none : P α) := by
  intro b a r h; exact absurd h (by simp)

theorem ite_cases {α} {Q : α → Prop} {c : Prop} [Decidable c] {a b : α} (ha : Q a) (hb : Q b) :
    Q (if c then a else b) := by
  split <;> assumption

theorem parseBody_cases {Q : P Msg → Prop} (t : Nat) (seg : Q pSegment) (ack : Q pAck)
    (refuse : Q pRefuse) (ka : Q (P.pure .keepalive)) (term : Q pTerm) (rej : Q pReject)
    (init : Q pInit) (unknown : Q fun _ => none) : Q (parseBody t) :=
  ite_cases seg <| ite_cases ack <| ite_cases refuse <| ite_cases ka <| ite_cases term <|
    ite_cases rej <| ite_cases init unknown

theorem good_parseBody (t : Nat) : Good (parseBody t) := by
  refine parseBody_cases t ?seg ?ack ?refuse (good_pure _) ?term ?rej ?init good_none
  case seg =>
    exact good_bind_takeNat 1 fun flags => good_bind_takeNat 8 fun tid =>
      ite_cases
        (good_bind_takeNat 4 fun es => good_bind_takeBytes es fun ext =>
          good_bind_takeNat 8 fun len => good_bind_takeBytes len fun data =>
          good_pure _)
        (good_bind_takeNat 8 fun len => good_bind_takeBytes len fun data =>
          good_pure _)
  case ack =>
    exact good_bind_takeNat 1 fun _ => good_bind_takeNat 8 fun _ =>
      good_bind_takeNat 8 fun _ => good_pure _
  case refuse =>
    exact good_bind_takeNat 1 fun _ => good_bind_takeNat 8 fun _ => good_pure _
  case term =>
    exact good_bind_takeNat 1 fun _ => good_bind_takeNat 1 fun _ => good_pure _
  case rej =>
    exact good_bind_takeNat 1 fun _ => good_bind_takeNat 1 fun _ => good_pure _
  case init =>
    exact good_bind_takeNat 2 fun _ => good_bind_takeNat 8 fun _ =>
      good_bind_takeNat 8 fun _ => good_bind_takeNat 2 fun nl =>
      good_bind_takeBytes nl fun _ => good_bind_takeNat 4 fun es =>
      good_bind_takeBytes es fun _ => good_pure _

theorem bind_takeBytes_append {β} (d : Bytes) (f : Bytes → P β) (r : Bytes) :
    ((takeBytes d.length).bind f) (d ++ r) = f d r := by
  unfold P.bind
  rw [takeBytes_eq_some.mpr ⟨rfl, rfl⟩]

theorem bind_takeNat_beBytes {β} (k n : Nat) (f : Nat → P β) (r : Bytes) (h : n < 256 ^ k) :
    ((takeNat k).bind f) (beBytes k n ++ r) = f n r := by
  have := bind_takeBytes_append (beBytes k n) (fun d => f (beNat d)) r
  rwa [beBytes_length, ← takeNat_bind, beNat_beBytes k n h] at this

theorem bind_u8 {β} {n : Nat} (h : n < 256) (f : Nat → P β) (r : Bytes) :
    ((takeNat 1).bind f) (u8 n ++ r) = f n r := bind_takeNat_beBytes 1 n f r h

theorem bind_u16 {β} {n : Nat} (h : n < 65536) (f : Nat → P β) (r : Bytes) :
    ((takeNat 2).bind f) (u16 n ++ r) = f n r := bind_takeNat_beBytes 2 n f r h

theorem bind_u32 {β} {n : Nat} (h : n < 2 ^ 32) (f : Nat → P β) (r : Bytes) :
    ((takeNat 4).bind f) (u32 n ++ r) = f n r := bind_takeNat_beBytes 4 n f r h

theorem bind_u64 {β} {n : Nat} (h : n < 2 ^ 64) (f : Nat → P β) (r : Bytes) :
    ((takeNat 8).bind f) (u64 n ++ r) = f n r := bind_takeNat_beBytes 8 n f r h

theorem encode_ne_nil (m : Msg) : encode m ≠ [] := by
  cases m <;> simp [encode, u8, beBytes, magic]

theorem u8_eq (n : Nat) (h : n < 256) : u8 n = [UInt8.ofNat n] := by
  simp [u8, beBytes, Nat.mod_eq_of_lt h]

theorem u16_eq (n : Nat) (h : n < 65536) :
    u16 n = [UInt8.ofNat (n / 256), UInt8.ofNat (n % 256)] := by
  have h1 : n / 256 % 256 = n / 256 := Nat.mod_eq_of_lt (by omega)
  simp [u16, beBytes, h1]

theorem u16_toNat (n : Nat) (h : n < 65536) :
    (UInt8.ofNat (n / 256)).toNat * 256 + (UInt8.ofNat (n % 256)).toNat = n := by
  rw [ofNat_toNat _ (by omega), ofNat_toNat _ (by omega)]
  exact Nat.div_add_mod' n 256

theorem decExtItems_enc (items : List ExtItem)
    (hwf : ∀ e ∈ items, e.flags < 256 ∧ e.type < 65536 ∧ e.value.length < 65536) (fuel : Nat)
    (hfuel : items.length ≤ fuel) :
    decExtItems fuel (encExtItems items) = some items := by
  induction items generalizing fuel with
  | nil => cases fuel <;> simp [decExtItems, encExtItems]
  | cons e es ih =>
    obtain ⟨h1, h2, h3⟩ := hwf e (by simp)
    cases fuel with
    | zero => simp at hfuel
    | succ fuel =>
      have hlen : ¬ ((e.value ++ encExtItems es).length < e.value.length) := by
        rw [List.length_append]; omega
      simp only [encExtItems, encExtItem, u8_eq _ h1, u16_eq _ h2, u16_eq _ h3, List.cons_append,
        List.nil_append, decExtItems, reduceCtorEq, if_false, ofNat_toNat _ h1, u16_toNat _ h2,
        u16_toNat _ h3, hlen, List.drop_left, List.take_left,
        ih (fun e' he' => hwf e' (by simp [he'])) fuel (by simpa using hfuel)]

end Tcpcl
end DtnVerif
