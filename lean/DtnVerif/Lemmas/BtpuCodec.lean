/- The BTP-U message codec (`Btpu.encMsg/decMsg`, hint chains): round trips in both directions. -/
import DtnVerif.Model.Btpu
import DtnVerif.Lemmas.Bytes
namespace DtnVerif
namespace Btpu

theorem encHints_cons (h : Hint) (rest : List Hint) :
    encHints (h :: rest) = encHint h (!rest.isEmpty) ++ encHints rest := by
  cases rest with
  | nil => exact (List.append_nil _).symm
  | cons h' r => rfl

theorem hintsExact_cons (h : Hint) (rest : List Hint) :
    hintsExact (h :: rest) =
      ((h.hflag == !rest.isEmpty) && h.length == h.data.length && hintsExact rest) := by
  obtain ⟨ty, fl, ln, dt⟩ := h
  cases rest <;> cases fl <;> simp [hintsExact]

theorem hintsLen_eq (hs : List Hint) : (encHints hs).length = hintsLen hs := by
  induction hs with
  | nil => rfl
  | cons h rest ih =>
    rw [encHints_cons, List.length_append, ih, hintsLen, encHint, List.length_cons, List.length_cons]
    omega

theorem hintsLen_ge (hs : List Hint) : 2 * hs.length ≤ hintsLen hs := by
  induction hs with
  | nil => simp [hintsLen]
  | cons h rest ih => simp only [hintsLen, List.length_cons]; omega

def HintsWF (hs : List Hint) : Prop :=
  hintsExact hs = true ∧ ∀ h ∈ hs, h.htype < 128 ∧ h.length < 256

theorem decHints_step (f ty : Nat) (fl more : Bool) (dt rest : Bytes) (hty : ty < 128)
    (hln : dt.length < 256) :
    decHints (f + 1) (encHint ⟨ty, fl, dt.length, dt⟩ more ++ rest) =
      if more then
        (match decHints f rest with
         | none => none
         | some (hs, r) => some (⟨ty, true, dt.length, dt⟩ :: hs, r))
      else some ([⟨ty, false, dt.length, dt⟩], rest) := by
  have ha : (UInt8.ofNat (ty % 128 * 2 + (if more = true then 1 else 0))).toNat =
      ty * 2 + (if more = true then 1 else 0) := by
    rw [ofNat_toNat]
    · cases more <;> simp <;> omega
    · cases more <;> simp <;> omega
  have hb : (UInt8.ofNat (dt.length % 256)).toNat = dt.length := by
    rw [ofNat_toNat] <;> omega
  simp only [encHint, List.cons_append, decHints, ha, hb]
  cases more with
  | false =>
    simp
  | true =>
    have e1 : (ty * 2 + 1) / 2 = ty := by omega
    have e2 : ((ty * 2 + 1) % 2 = 1) := by omega
    simp only [if_true, e1, e2, decide_true]
    have d1 : List.drop dt.length (dt ++ rest) = rest := by simp
    have d2 : List.take dt.length (dt ++ rest) = dt := by simp
    rw [d1, d2]
    cases decHints f rest <;> rfl

theorem decHints_enc : ∀ (hs : List Hint) (fuel : Nat) (tail : Bytes), hs ≠ [] → HintsWF hs →
    hs.length ≤ fuel → decHints fuel (encHints hs ++ tail) = some (hs, tail) := by
  intro hs
  induction hs with
  | nil => intro _ _ h; exact absurd rfl h
  | cons h rest ih =>
    intro fuel tail _ hwf hfuel
    obtain ⟨hex, hb⟩ := hwf
    obtain ⟨ht, hl⟩ := hb h List.mem_cons_self
    obtain ⟨ty, fl, ln, dt⟩ := h
    rw [hintsExact_cons] at hex
    simp only [Bool.and_eq_true, beq_iff_eq] at hex ht hl
    obtain ⟨⟨hfl, hlen⟩, hex'⟩ := hex
    subst hfl; subst hlen
    cases fuel with
    | zero => simp at hfuel
    | succ f =>
      rw [encHints_cons, List.append_assoc, decHints_step f ty _ _ dt _ ht hl]
      cases rest with
      | nil => rfl
      | cons h' r =>
        have hrec := ih f tail (List.cons_ne_nil _ _)
          ⟨hex', fun x hx => hb x (List.mem_cons_of_mem _ hx)⟩ (by simp at hfuel ⊢; omega)
        simp only [List.isEmpty_cons, Bool.not_false, if_true, hrec]

/-- A message whose fields fit their widths and whose declared lengths are the actual ones. -/
def Msg.wf (m : Msg) : Prop :=
  m.mtype < 256 ∧ m.flags < 16 ∧ m.length < 2 ^ 20 ∧ m.exact = true ∧
  ∀ h ∈ m.hints, h.htype < 128 ∧ h.length < 256

theorem decMsg_enc (m : Msg) (tail : Bytes) (hwf : m.wf) :
    decMsg (encMsg m ++ tail) = some (m, tail) := by
  obtain ⟨h1, h2, h3, hex, hh⟩ := hwf
  obtain ⟨ty, fl, ln, hs, pl⟩ := m
  simp only at h1 h2 h3 hh
  simp only [Msg.exact, Bool.and_eq_true, beq_iff_eq] at hex
  obtain ⟨⟨hhex, hlen⟩, hflag⟩ := hex
  simp only [encMsg, encHead, List.cons_append, List.nil_append, List.append_assoc, decMsg]
  have a0 : (UInt8.ofNat (ty % 256)).toNat = ty := by rw [ofNat_toNat] <;> omega
  have a1 : (UInt8.ofNat (fl % 16 * 16 + ln / 65536 % 16)).toNat = fl * 16 + ln / 65536 := by
    have : ln / 65536 < 16 := by omega
    rw [ofNat_toNat] <;> omega
  have a2 : (UInt8.ofNat (ln / 256 % 256)).toNat = ln / 256 % 256 := by rw [ofNat_toNat]; omega
  have a3 : (UInt8.ofNat (ln % 256)).toNat = ln % 256 := by rw [ofNat_toNat]; omega
  simp only [a0, a1, a2, a3]
  have hfl : (fl * 16 + ln / 65536) / 16 = fl := by omega
  have hln : (fl * 16 + ln / 65536) % 16 * 65536 + ln / 256 % 256 * 256 + ln % 256 = ln := by omega
  simp only [hfl, hln]
  have hhints : (if fl / 8 % 2 = 1 then
        decHints ((encHints hs ++ (pl ++ tail)).length + 1) (encHints hs ++ (pl ++ tail))
      else some ([], encHints hs ++ (pl ++ tail))) = some (hs, pl ++ tail) := by
    by_cases hnil : hs = []
    · subst hnil
      have hf0 : ¬ (fl / 8 % 2 = 1) := by
        intro h; simp [h] at hflag
      rw [if_neg hf0]; rfl
    · have hf1 : fl / 8 % 2 = 1 := by
        by_cases h : fl / 8 % 2 = 1
        · exact h
        · simp [h, List.isEmpty_eq_false_iff.mpr hnil] at hflag
      rw [if_pos hf1]
      refine decHints_enc hs _ (pl ++ tail) hnil ⟨hhex, hh⟩ ?_
      have := hintsLen_ge hs
      simp only [List.length_append, hintsLen_eq]; omega
  have hle : hintsLen hs ≤ ln := by omega
  have hpl : ln - hintsLen hs = pl.length := by omega
  simp only [hhints, hle, if_true, hpl]
  simp

theorem encMsg_head (m : Msg) : ∃ tl, encMsg m = UInt8.ofNat (m.mtype % 256) :: tl := ⟨_, rfl⟩

theorem encMsg_length_ge (m : Msg) : 4 ≤ (encMsg m).length := by
  simp [encMsg, encHead]

theorem encSet_eq_flatten (ms : List Msg) : encSet ms = (ms.map encMsg).flatten := by
  induction ms with
  | nil => rfl
  | cons m r ih => rw [encSet, ih, List.map_cons, List.flatten_cons]

theorem decSet_enc (pad : Bytes) (hpad : pad = [] ∨ ∃ r, pad = 0 :: r) :
    ∀ (msgs : List Msg) (fuel : Nat), (∀ m ∈ msgs, m.wf ∧ m.mtype ≠ 0) → msgs.length < fuel →
      decSet fuel (encSet msgs ++ pad) = some (msgs, pad) := by
  intro msgs
  induction msgs with
  | nil =>
    intro fuel _ hf
    cases fuel with
    | zero => simp at hf
    | succ f =>
      rcases hpad with rfl | ⟨r, rfl⟩
      · simp [encSet, decSet]
      · simp [encSet, decSet]
  | cons m rest ih =>
    intro fuel hwf hf
    cases fuel with
    | zero => simp at hf
    | succ f =>
      obtain ⟨hm, hm0⟩ := hwf m List.mem_cons_self
      have hdec := decMsg_enc m (encSet rest ++ pad) hm
      obtain ⟨tl, htl⟩ := encMsg_head m
      simp only [encSet, List.append_assoc]
      rw [htl] at hdec ⊢
      simp only [List.cons_append] at hdec ⊢
      unfold decSet
      have hne : ¬ (UInt8.ofNat (m.mtype % 256) = 0) := by
        intro h
        have := congrArg UInt8.toNat h
        rw [ofNat_toNat _ (by omega)] at this
        have h256 := hm.1
        simp at this; omega
      simp only [hne, if_false, hdec]
      rw [ih f (fun x hx => hwf x (List.mem_cons_of_mem _ hx)) (by simp at hf; omega)]

theorem encHint_read (t l : UInt8) (rest : Bytes) (fl more : Bool)
    (hm : t.toNat % 2 = if more then 1 else 0) :
    encHint ⟨t.toNat / 2, fl, l.toNat, rest.take l.toNat⟩ more ++ rest.drop l.toNat =
      t :: l :: rest := by
  have ht := UInt8.toNat_lt t
  have hl := UInt8.toNat_lt l
  have e1 : t.toNat / 2 % 128 * 2 + (if more = true then 1 else 0) = t.toNat := by omega
  have e2 : l.toNat % 256 = l.toNat := by omega
  simp only [encHint, List.cons_append]
  rw [e1, e2, UInt8.ofNat_toNat, UInt8.ofNat_toNat, List.take_append_drop]

theorem decHints_exact : ∀ (fuel : Nat) (b : Bytes) (hs : List Hint) (r1 : Bytes),
    decHints fuel b = some (hs, r1) → hintsExact hs = true → hs ≠ [] → encHints hs ++ r1 = b := by
  intro fuel
  induction fuel with
  | zero => intro b hs r1 h _ hne; simp [decHints] at h; exact absurd h.1 hne
  | succ f ih =>
    intro b hs r1 h hex hne
    match b, h with
    | [], h => simp [decHints] at h; exact absurd h.1 hne
    | [_], h => simp [decHints] at h
    | t :: l :: rest, h =>
      simp only [decHints] at h
      by_cases hfl : t.toNat % 2 = 1
      · simp only [hfl, decide_true, if_true] at h
        split at h
        · cases h
        rename_i hs' r hrec
        cases h
        cases hs' with
        | nil => simp [hintsExact] at hex
        | cons h' r' =>
          simp only [hintsExact, Bool.and_eq_true, beq_iff_eq] at hex
          have := ih _ _ _ hrec hex.2 (List.cons_ne_nil _ _)
          simp only [encHints, List.append_assoc, this]
          exact encHint_read t l rest _ true hfl
      · simp only [hfl, decide_false, Bool.false_eq_true, if_false, Option.some.injEq,
          Prod.mk.injEq] at h
        obtain ⟨rfl, rfl⟩ := h
        simp only [encHints]
        exact encHint_read t l rest _ false ((Nat.mod_two_eq_zero_or_one _).resolve_right hfl)

theorem decMsg_exact (b : Bytes) (m : Msg) (rest : Bytes) (h : decMsg b = some (m, rest))
    (hex : m.exact = true) : encMsg m ++ rest = b := by
  match b, h with
  | b0 :: b1 :: b2 :: b3 :: r, h =>
    simp only [decMsg] at h
    have t0 := UInt8.toNat_lt b0
    have t1 := UInt8.toNat_lt b1
    have t2 := UInt8.toNat_lt b2
    have t3 := UInt8.toNat_lt b3
    cases hh : (if b1.toNat / 16 / 8 % 2 = 1 then decHints (r.length + 1) r else some ([], r)) with
    | none => rw [hh] at h; cases h
    | some p =>
      obtain ⟨hs, r1⟩ := p
      rw [hh] at h
      simp only [Option.some.injEq, Prod.mk.injEq] at h
      obtain ⟨rfl, rfl⟩ := h
      simp only [Msg.exact, Bool.and_eq_true, beq_iff_eq] at hex
      obtain ⟨⟨hhex, hlen⟩, hflag⟩ := hex
      simp only [encMsg, encHead, List.cons_append, List.nil_append, List.append_assoc]
      have e0 : b0.toNat % 256 = b0.toNat := by omega
      have e1 : b1.toNat / 16 % 16 * 16 +
          (b1.toNat % 16 * 65536 + b2.toNat * 256 + b3.toNat) / 65536 % 16 = b1.toNat := by omega
      have e2 : (b1.toNat % 16 * 65536 + b2.toNat * 256 + b3.toNat) / 256 % 256 = b2.toNat := by omega
      have e3 : (b1.toNat % 16 * 65536 + b2.toNat * 256 + b3.toNat) % 256 = b3.toNat := by omega
      rw [e0, e1, e2, e3, UInt8.ofNat_toNat, UInt8.ofNat_toNat, UInt8.ofNat_toNat, UInt8.ofNat_toNat]
      congr 4
      have hle : hintsLen hs ≤ b1.toNat % 16 * 65536 + b2.toNat * 256 + b3.toNat := by omega
      simp only [hle, if_true] at hlen ⊢
      have hr : encHints hs ++ r1 = r := by
        by_cases hf : b1.toNat / 16 / 8 % 2 = 1
        · simp only [hf, if_true] at hh
          have hne : hs ≠ [] := by
            intro hnil; subst hnil; simp [hf] at hflag
          exact decHints_exact _ _ _ _ hh hhex hne
        · simp only [hf, if_false, Option.some.injEq, Prod.mk.injEq] at hh
          obtain ⟨rfl, rfl⟩ := hh
          rfl
      rw [List.take_append_drop]; exact hr

theorem Msg.body_seg (m : Msg) (a b chunk : Bytes) (hp : m.payload = a ++ (b ++ chunk))
    (ha : a.length = 4) (hb : b.length = 4) (hty : m.mtype = 3 ∨ m.mtype = 4) :
    m.body = .seg (m.mtype = 4) (beNat a) (beNat b) chunk := by
  have hne : (a ++ (b ++ chunk)).isEmpty = false := by
    cases a with
    | nil => cases ha
    | cons _ _ => rfl
  have h8 : ¬ (a ++ (b ++ chunk)).length < 8 := by simp only [List.length_append]; omega
  have h2 : m.mtype ≠ 2 := by omega
  rw [Msg.body, hp, hne, if_neg Bool.false_ne_true, if_neg h2, if_pos hty, if_neg h8,
    List.take_left' ha, List.drop_left' ha, List.take_left' hb, ← List.append_assoc,
    List.drop_left' (by rw [List.length_append, ha, hb])]

theorem decSet_exact : ∀ (fuel : Nat) (b : Bytes) (ms : List Msg) (rest : Bytes),
    decSet fuel b = some (ms, rest) → (∀ m ∈ ms, m.exact = true) → encSet ms ++ rest = b := by
  intro fuel
  induction fuel with
  | zero => intro b ms rest h _; simp [decSet] at h; obtain ⟨rfl, rfl⟩ := h; rfl
  | succ f ih =>
    intro b ms rest h hex
    match b, h with
    | [], h => simp [decSet] at h; obtain ⟨rfl, rfl⟩ := h; rfl
    | b0 :: r, h =>
      simp only [decSet] at h
      by_cases hz : b0 = 0
      · simp only [hz, if_true, Option.some.injEq, Prod.mk.injEq] at h
        obtain ⟨rfl, rfl⟩ := h
        simp [encSet, hz]
      · simp only [hz, if_false] at h
        split at h
        · cases h
        rename_i m rest' hm
        split at h
        · cases h
        rename_i ms' pd hs
        cases h
        have h1 := decMsg_exact _ _ _ hm (hex m List.mem_cons_self)
        have h2 := ih _ _ _ hs (fun x hx => hex x (List.mem_cons_of_mem _ hx))
        simp only [encSet, List.append_assoc, h2, h1]

end Btpu
end DtnVerif
