/-
  The receive loop of `Messenger.recv_raw`, by its equations: what `probe` answers on each form of
  buffer, how `drain` unfolds, and that `feed` does not care where the octets are cut.
-/
import DtnVerif.Lemmas.TcpclCodec
namespace DtnVerif
namespace Tcpcl

theorem probe_nil (c : Bool) : probe c [] = .need := by
  cases c <;> rfl

theorem probe_true_cons (t : UInt8) (rest : Bytes) :
    probe true (t :: rest) =
      if !knownType t.toNat then .bad else
      match parseBody t.toNat rest with
      | some (m, r) => .got m ((t :: rest).length - r.length)
      | none => .need := by
  rfl

theorem probe_true_known {t : UInt8} (hk : knownType t.toNat = true) (rest : Bytes) :
    probe true (t :: rest) =
      match parseBody t.toNat rest with
      | some (m, r) => .got m ((t :: rest).length - r.length)
      | none => .need := by
  rw [probe_true_cons, hk]; rfl

theorem short_or_cons5 (b : Bytes) :
    b.length < 5 ∨ ∃ b0 b1 b2 b3 b4 r, b = b0 :: b1 :: b2 :: b3 :: b4 :: r :=
  match b with
  | b0 :: b1 :: b2 :: b3 :: b4 :: r => .inr ⟨b0, b1, b2, b3, b4, r, rfl⟩
  | [] | [_] | [_, _] | [_, _, _] | [_, _, _, _] => .inl (by simp)

theorem probe_false_short {b : Bytes} (h : b.length < 5) : probe false b = .need := by
  simp only [probe, Bool.false_eq_true, if_false, h, if_true]

theorem probe_false_cons5 (b0 b1 b2 b3 b4 : UInt8) (r : Bytes) :
    probe false (b0 :: b1 :: b2 :: b3 :: b4 :: r) =
      if [b0, b1, b2, b3] ≠ magic ∨ b4 ≠ 4 then .bad else
      match r with
      | [] => .need
      | f :: _ => .got (.contact f.toNat) 6 := by
  have hl : ¬ (b0 :: b1 :: b2 :: b3 :: b4 :: r).length < 5 := by
    simp only [List.length_cons]; omega
  unfold probe
  rw [if_neg Bool.false_ne_true, if_neg hl]
  cases r <;> simp

theorem probe_false_got {b : Bytes} {m : Msg} {n : Nat} (h : probe false b = .got m n) :
    ∃ b0 b1 b2 b3 b4 f r, b = b0 :: b1 :: b2 :: b3 :: b4 :: f :: r ∧ ¬([b0, b1, b2, b3] ≠ magic ∨ b4 ≠ 4)
      ∧ m = .contact f.toNat ∧ n = 6 := by
  rcases short_or_cons5 b with hs | ⟨b0, b1, b2, b3, b4, r, rfl⟩
  · rw [probe_false_short hs] at h; cases h
  · rw [probe_false_cons5] at h
    split at h
    · cases h
    · rename_i hm
      cases r with
      | nil => cases h
      | cons f r => injection h with h1 h2; exact ⟨b0, b1, b2, b3, b4, f, r, rfl, hm, h1.symm, h2.symm⟩

theorem probe_true_got {b : Bytes} {m : Msg} {n : Nat} (h : probe true b = .got m n) :
    ∃ t rest r, b = t :: rest ∧ knownType t.toNat = true ∧ parseBody t.toNat rest = some (m, r)
      ∧ n = rest.length + 1 - r.length := by
  cases b with
  | nil => cases h
  | cons t rest =>
    rw [probe_true_cons] at h
    split at h
    · cases h
    rename_i hk
    split at h
    · rename_i m' r hpb
      injection h with h1 h2
      subst h1
      exact ⟨t, rest, r, rfl, by simpa using hk, hpb, h2.symm⟩
    · cases h

theorem probe_got {c : Bool} {b : Bytes} {m : Msg} {n : Nat} (h : probe c b = .got m n) :
    0 < n ∧ n ≤ b.length ∧ (∀ x, probe c (b ++ x) = .got m n)
      ∧ ∀ p, p <+: b.take n → p ≠ b.take n → probe c p = .need := by
  cases c with
  | true =>
    obtain ⟨t, _, r, rfl, hk, hpb, rfl⟩ := probe_true_got h
    obtain ⟨u, rfl, hext, hpre⟩ := good_parseBody _ _ _ _ hpb
    have hn : (u ++ r).length + 1 - r.length = u.length + 1 := by
      rw [List.length_append]; omega
    rw [hn]
    refine ⟨Nat.succ_pos _, by simp only [List.length_cons, List.length_append]; omega, ?_, ?_⟩
    · intro x
      rw [List.cons_append, List.append_assoc, probe_true_known hk, hext]
      simp only [List.length_cons, List.length_append]
      congr 1; omega
    · rw [List.take_succ_cons, List.take_left]
      intro p hp hne
      cases p with
      | nil => rfl
      | cons t' p' =>
        obtain ⟨rfl, hp'⟩ := List.cons_prefix_cons.mp hp
        rw [probe_true_known hk, hpre p' hp' fun e => hne (by rw [e])]
  | false =>
    obtain ⟨b0, b1, b2, b3, b4, b5, r, rfl, hm, rfl, rfl⟩ := probe_false_got h
    refine ⟨by decide, by simp only [List.length_cons]; omega, ?_, ?_⟩
    · intro x
      simp only [List.cons_append, probe_false_cons5, if_neg hm]
    · intro p hp hne
      have hlt := prefix_lt_length hp hne
      rw [List.prefix_iff_eq_take] at hp
      rcases Nat.lt_or_ge p.length 5 with h5 | h5
      · exact probe_false_short h5
      · have : p.length = 5 := by
          simp only [List.take, List.length_cons, List.length_nil] at hlt; omega
        rw [this] at hp
        rw [hp]
        exact (probe_false_cons5 ..).trans (if_neg hm)

theorem probe_bad_append {c : Bool} {b : Bytes} (h : probe c b = .bad) (x : Bytes) :
    probe c (b ++ x) = .bad := by
  cases c with
  | true =>
    cases b with
    | nil => cases h
    | cons t rest =>
      rw [probe_true_cons] at h
      rw [List.cons_append, probe_true_cons]
      split at h
      · rename_i hk; rw [if_pos hk]
      · split at h <;> cases h
  | false =>
    rcases short_or_cons5 b with hs | ⟨b0, b1, b2, b3, b4, r, rfl⟩
    · rw [probe_false_short hs] at h; cases h
    rw [probe_false_cons5] at h
    split at h
    · rename_i hm
      simp only [List.cons_append, probe_false_cons5, if_pos hm]
    · cases r <;> cases h

theorem drainAux_acc (fuel : Nat) (rx : Rx) (acc : List Msg) :
    drainAux fuel rx acc = ((drainAux fuel rx []).1, acc ++ (drainAux fuel rx []).2) := by
  induction fuel generalizing rx acc with
  | zero => simp [drainAux]
  | succ fuel ih =>
    unfold drainAux
    split
    · simp
    · split
      · simp
      · simp
      · rename_i m n _
        rw [ih _ (acc ++ [m]), ih _ ([] ++ [m])]
        simp

/-- Any fuel above the buffer length gives the same result: every round consumes an octet. -/
theorem drainAux_fuel (f1 f2 : Nat) (rx : Rx) (acc : List Msg)
    (h1 : rx.buf.length + 1 ≤ f1) (h2 : rx.buf.length + 1 ≤ f2) :
    drainAux f1 rx acc = drainAux f2 rx acc := by
  induction f1 generalizing f2 rx acc with
  | zero => omega
  | succ f1 ih =>
    cases f2 with
    | zero => omega
    | succ f2 =>
      unfold drainAux
      split
      · rfl
      · split
        · rfl
        · rfl
        · rename_i m n hp
          obtain ⟨hn, hle, _⟩ := probe_got hp
          apply ih
          · simp only [List.length_drop]; omega
          · simp only [List.length_drop]; omega

theorem drain_dead (rx : Rx) (h : rx.dead = true) : drain rx = (rx, []) := by
  simp [drain, drainAux, h]

theorem drain_need (rx : Rx) (h : probe rx.inConn rx.buf = .need) : drain rx = (rx, []) := by
  unfold drain drainAux
  split
  · rfl
  · rw [h]

theorem drain_bad (rx : Rx) (hd : rx.dead = false) (h : probe rx.inConn rx.buf = .bad) :
    drain rx = ({ rx with dead := true, buf := [] }, []) := by
  unfold drain drainAux
  simp [hd, h]

theorem drain_got (rx : Rx) (hd : rx.dead = false) (m : Msg) (n : Nat)
    (h : probe rx.inConn rx.buf = .got m n) :
    drain rx =
      ((drain { rx with buf := rx.buf.drop n, inConn := rx.inConn || m.isContact }).1,
        m :: (drain { rx with buf := rx.buf.drop n, inConn := rx.inConn || m.isContact }).2) := by
  obtain ⟨hn, hle, _⟩ := probe_got h
  unfold drain
  conv => lhs; unfold drainAux
  simp only [hd, Bool.false_eq_true, if_false, h]
  rw [drainAux_fuel rx.buf.length ((rx.buf.drop n).length + 1) _ _
        (by simp only [List.length_drop]; omega) (Nat.le_refl _), drainAux_acc]
  simp

theorem drain_induction {motive : Rx → Prop}
    (dead : ∀ rx, rx.dead = true → motive rx)
    (need : ∀ rx, rx.dead = false → probe rx.inConn rx.buf = .need → motive rx)
    (bad : ∀ rx, rx.dead = false → probe rx.inConn rx.buf = .bad → motive rx)
    (got : ∀ rx m n, rx.dead = false → probe rx.inConn rx.buf = .got m n →
      motive { rx with buf := rx.buf.drop n, inConn := rx.inConn || m.isContact } → motive rx)
    (rx : Rx) : motive rx := by
  generalize hk : rx.buf.length = k
  induction k using Nat.strongRecOn generalizing rx with
  | ind k ih =>
    cases hd : rx.dead with
    | true => exact dead rx hd
    | false =>
      cases hp : probe rx.inConn rx.buf with
      | need => exact need rx hd hp
      | bad => exact bad rx hd hp
      | got m n =>
        obtain ⟨hn, hle, _⟩ := probe_got hp
        exact got rx m n hd hp (ih _ (by simp only [List.length_drop]; omega) _ rfl)

theorem feed_dead (rx : Rx) (c : Bytes) (h : rx.dead = true) : feed rx c = (rx, []) :=
  if_pos h

theorem feed_alive (rx : Rx) (c : Bytes) (h : rx.dead = false) :
    feed rx c = drain { rx with buf := rx.buf ++ c } :=
  if_neg (by simp [h])

theorem feed_nil_buf (rx : Rx) (c : Bytes) (h : (feed rx c).2 = []) (hd : (feed rx c).1.dead = false) :
    (feed rx c).1.buf = rx.buf ++ c := by
  cases hr : rx.dead with
  | true => rw [feed_dead rx c hr, hr] at hd; cases hd
  | false =>
    rw [feed_alive rx c hr] at h hd ⊢
    cases hp : probe rx.inConn (rx.buf ++ c) with
    | need => rw [drain_need { rx with buf := rx.buf ++ c } hp]
    | bad => rw [drain_bad { rx with buf := rx.buf ++ c } hr hp] at hd; cases hd
    | got m n => rw [drain_got { rx with buf := rx.buf ++ c } hr m n hp] at h; cases h

theorem drain_append (x : Bytes) (rx : Rx) (hd : rx.dead = false) :
    drain { rx with buf := rx.buf ++ x } =
      ((feed (drain rx).1 x).1, (drain rx).2 ++ (feed (drain rx).1 x).2) := by
  induction rx using drain_induction with
  | dead rx h => rw [h] at hd; cases hd
  | need rx _ hp => rw [drain_need rx hp, feed_alive rx x hd]; rfl
  | bad rx _ hp =>
    rw [drain_bad rx hd hp, feed_dead _ x rfl, drain_bad { rx with buf := rx.buf ++ x } hd
      (probe_bad_append hp x)]
    rfl
  | got rx m n _ hp ih =>
    obtain ⟨_, hle, hext, _⟩ := probe_got hp
    rw [drain_got rx hd m n hp, drain_got { rx with buf := rx.buf ++ x } hd m n (hext x)]
    simp only [List.drop_append_of_le_length hle]
    rw [ih hd]
    rfl

theorem drain_idem (rx : Rx) : drain (drain rx).1 = ((drain rx).1, []) := by
  induction rx using drain_induction with
  | dead rx h => rw [drain_dead rx h, drain_dead rx h]
  | need rx _ hp => rw [drain_need rx hp, drain_need rx hp]
  | bad rx hd hp => rw [drain_bad rx hd hp]; exact drain_dead _ rfl
  | got rx m n hd hp ih => rw [drain_got rx hd m n hp]; exact ih

theorem feed_nil (rx : Rx) : feed rx [] = drain rx := by
  cases hd : rx.dead with
  | true => rw [feed_dead rx _ hd, drain_dead rx hd]
  | false => rw [feed_alive rx _ hd, List.append_nil]

theorem feed_append (rx : Rx) (p q : Bytes) :
    feed rx (p ++ q) = ((feed (feed rx p).1 q).1, (feed rx p).2 ++ (feed (feed rx p).1 q).2) := by
  cases hd : rx.dead with
  | true => rw [feed_dead rx p hd, feed_dead rx q hd, feed_dead rx _ hd]; rfl
  | false =>
    rw [feed_alive rx p hd, feed_alive rx _ hd, ← List.append_assoc]
    exact drain_append q { rx with buf := rx.buf ++ p } hd

theorem feedAll_cons (rx : Rx) (c : Bytes) (cs : List Bytes) :
    feedAll rx (c :: cs) =
      ((feedAll (feed rx c).1 cs).1, (feed rx c).2 ++ (feedAll (feed rx c).1 cs).2) := rfl

end Tcpcl
end DtnVerif
