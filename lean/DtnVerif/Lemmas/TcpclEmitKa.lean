/-
  A KEEPALIVE is only emitted while both the configured and the peer's announced keepalive interval
  are positive (`pk` stands for the peer's value; the two-endpoint lemma instantiates it with the
  peer's configuration).
-/
import DtnVerif.Lemmas.TcpclEmit
namespace DtnVerif
namespace Tcpcl

def kaOK (pk : Nat) (cfg : Cfg) : Msg → Prop
  | .keepalive => 0 < cfg.keepalive ∧ 0 < pk
  | _ => True

def KaEmit (pk : Nat) (e : Ep) : Prop := ∀ m ∈ e.emitted, kaOK pk e.cfg m

variable {pk : Nat}

theorem kaOK_of_ne {cfg : Cfg} {m : Msg} (h : m ≠ .keepalive) : kaOK pk cfg m := by
  cases m <;> first | trivial | exact absurd rfl h

theorem kaEmit_step (e : Ep) (ev : Ev) (hi : KaEmit pk e)
    (hk : e.kaDeadline.isSome = true → 0 < e.cfg.keepalive ∧ 0 < pk) : KaEmit pk (step e ev).1 :=
  emitAll_step (ok := kaOK pk) (fun _ _ _ hm => kaOK_of_ne hm) e ev hi hk

theorem kaEmit_init (cfg : Cfg) : KaEmit pk { cfg := cfg } := by
  intro m hm; simp at hm

end Tcpcl
end DtnVerif
