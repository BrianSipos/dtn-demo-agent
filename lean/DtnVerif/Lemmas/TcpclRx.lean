/-
  The receive guarantee: the receive side of an endpoint is exactly the ideal receiver applied to the messages it
  processed, whatever else happens (user calls, transmit progress, timers, any peer behaviour).
-/
import DtnVerif.Lemmas.TcpclTr
import DtnVerif.Lemmas.TcpclSpec
namespace DtnVerif
namespace Tcpcl

structure RxView where
  processed : List Msg
  rxLog : List (Nat × Bytes)
  rxTmp : Option (Nat × Bytes)
  inSess : Bool
  rx : Rx
  rxBytes : Bytes
  deriving DecidableEq

def Ep.rxView (e : Ep) : RxView := ⟨e.processed, e.rxLog, e.rxTmp, e.inSess, e.rx, e.rxBytes⟩

def RxInv (e : Ep) : Prop :=
  e.rxLog = (rxSpec e.processed).done ∧ e.rxTmp = (rxSpec e.processed).cur
    ∧ e.inSess = (rxSpec e.processed).inSess

theorem rxInv_of_view {e e' : Ep} (h : e'.rxView = e.rxView) (hi : RxInv e) : RxInv e' := by
  simp only [Ep.rxView, RxView.mk.injEq] at h
  obtain ⟨h1, h2, h3, h4, _, _⟩ := h
  unfold RxInv at *
  rw [h1, h2, h3, h4]; exact hi

@[simp] theorem view_kaReset (e : Ep) : (kaReset e).rxView = e.rxView := rfl
@[simp] theorem view_idleReset (e : Ep) : (idleReset e).rxView = e.rxView := rfl
theorem view_sent (e : Ep) (m : Msg) : (e.sent m).rxView = e.rxView := rfl
@[simp] theorem view_sendMessage (e : Ep) (m : Msg) : (sendMessage e m).rxView = e.rxView := view_sent e m
@[simp] theorem view_pqTrigger (e : Ep) : (pqTrigger e).rxView = e.rxView := by
  unfold pqTrigger; split <;> rfl
@[simp] theorem view_setState (e : Ep) (s : String) : (setState e s).1.rxView = e.rxView := by
  unfold setState; split <;> rfl
@[simp] theorem view_flush (e : Ep) : (flushPendStart e).1.rxView = e.rxView := rfl
@[simp] theorem view_doClose (e : Ep) : (doClose e).1.rxView = e.rxView := by
  unfold doClose; split <;> rfl
@[simp] theorem view_checkSessTerm (e : Ep) : (checkSessTerm e).1.rxView = e.rxView := by
  unfold checkSessTerm; split
  · exact view_doClose e
  · rfl
@[simp] theorem view_sendContact (e : Ep) : (sendContact e).rxView = e.rxView := view_sendMessage e (.contact 0)
@[simp] theorem view_sendInit (e : Ep) : (sendInit e).rxView = e.rxView :=
  view_sendMessage e (.sessInit e.cfg.keepalive e.cfg.segMru sizeMax e.cfg.nodeId (sessionExt e.cfg))
@[simp] theorem view_sendReject (e : Ep) (r : Nat) (m : Msg) : (sendReject e r m).rxView = e.rxView :=
  view_sendMessage e (.msgReject m.type r)
@[simp] theorem view_mergeSession (e : Ep) (p : PeerInit) : (mergeSession e p).rxView = e.rxView := rfl

theorem rxView_tr {k : Kind} {a b : Ep} (h : Tr k a b) (hk : k.recv = false) : b.rxView = a.rxView := by
  cases h <;> first | exact absurd hk (by decide) | rfl

@[simp] theorem view_sendSessTerm (e : Ep) (r : Nat) (b : Bool) : (sendSessTerm e r b).1.rxView = e.rxView :=
  (reach_sendSessTerm (k := .loc) e r b).inv (P := fun e' => e'.rxView = e.rxView)
    (fun _ _ _ t hs h => (rxView_tr t (Kind.recv_of_sub hs rfl)).trans h) rfl

theorem rxInv_proc_inert {e e' : Ep} (m : Msg) (hi : RxInv e) (hm : rxSpecStep (rxSpec e.processed) m = rxSpec e.processed)
    (hv : e'.rxView = (e.proc m).rxView) : RxInv e' := by
  refine rxInv_of_view hv ?_
  obtain ⟨h1, h2, h3⟩ := hi
  simp only [RxInv, Ep.proc, rxSpec_snoc, hm]
  exact ⟨h1, h2, h3⟩

theorem rxSpecStep_rejects {e : Ep} {m : Msg} (hi : RxInv e) (h : OutOfPlace e m) :
    rxSpecStep (rxSpec e.processed) m = rxSpec e.processed := by
  obtain ⟨_, h2, h3⟩ := hi
  cases m with
  | xferSegment f t x d =>
    simp only [rxSpecStep, ← h2, ← h3]
    rcases h with h | ⟨hst, hn⟩
    · simp [h]
    · cases hr : e.rxTmp with
      | none => simp [hst]
      | some p => simp [hst, hn p.1 p.2 hr]
  | _ => first | rfl | cases h

theorem rxSpecStep_accept {e : Ep} {f t : Nat} {x d cur : Bytes} (hi : RxInv e) (hs : e.inSess = true)
    (hc : if hasStart f then cur = [] else e.rxTmp = some (t, cur)) :
    rxSpecStep (rxSpec e.processed) (.xferSegment f t x d) =
      if hasEnd f then { rxSpec e.processed with cur := none, done := (rxSpec e.processed).done ++ [(t, cur ++ d)] }
      else { rxSpec e.processed with cur := some (t, cur ++ d) } :=
  rxSpecStep_seg _ f t x d cur (hi.2.2 ▸ hs) (hi.2.1 ▸ hc)

theorem rxInv_tr {k : Kind} {a b : Ep} (h : Tr k a b) (hi : RxInv a) : RxInv b := by
  cases h with
  | contact | init | term | kaFire | segMid | segEnd => exact rxInv_of_view rfl hi
  | proc _ m hm => exact rxInv_proc_inert m hi (by cases m <;> first | rfl | cases hm) rfl
  | reject _ r m hr => exact rxInv_proc_inert m hi (rxSpecStep_rejects hi hr) (view_sent _ _)
  | gotTerm _ f r _ _ => exact rxInv_proc_inert (.sessTerm f r) hi rfl rfl
  | ackEnd _ f t l _ _ _ _ => exact rxInv_proc_inert (.xferAck f t l) hi rfl rfl
  | ackMid _ f t l _ _ _ => exact rxInv_proc_inert (.xferAck f t l) hi rfl rfl
  | refused _ r t _ _ => exact rxInv_proc_inert (.xferRefuse r t) hi rfl rfl
  | merge _ p x =>
    obtain ⟨h1, h2, _⟩ := hi
    refine rxInv_of_view (view_mergeSession _ p) ?_
    simp only [RxInv, Ep.proc, rxSpec_snoc, rxSpecStep]
    exact ⟨h1, h2, trivial⟩
  | rxMid _ f t x d cur hs hc he =>
    refine rxInv_of_view (view_sent _ _) ?_
    obtain ⟨h1, _, h3⟩ := hi
    simp only [RxInv, Ep.proc, rxSpec_snoc, rxSpecStep_accept ⟨h1, ‹_›, h3⟩ hs hc, he, Bool.false_eq_true, if_false]
    exact ⟨h1, trivial, h3⟩
  | rxEnd _ f t x d cur hs hc he =>
    have hs' := rxSpecStep_accept hi hs hc (x := x) (d := d)
    obtain ⟨h1, _, h3⟩ := hi
    have hv := view_sent (a.proc (.xferSegment f t x d)) (.xferAck f t (cur ++ d).length)
    simp only [Ep.rxView, RxView.mk.injEq, Ep.proc] at hv
    simp only [RxInv, Ep.proc, hv.1, hv.2.2.2.1]
    simp only [rxSpec_snoc, hs', he, if_true]
    exact ⟨by rw [h1], trivial, h3⟩
  | _ => exact hi

theorem rxInv_handleMsg (e : Ep) (m : Msg) (hi : RxInv e) : RxInv (handleMsg e m).1 :=
  (reach_handleMsg e m).inv (fun _ _ _ t _ => rxInv_tr t) hi

theorem rxInv_step (e : Ep) (ev : Ev) (hi : RxInv e) : RxInv (step e ev).1 :=
  step_inv (fun _ _ _ => rxInv_tr) e ev hi

theorem rxInv_init (cfg : Cfg) : RxInv { cfg := cfg } := ⟨rfl, rfl, rfl⟩

theorem rxInv_run (evs : List Ev) (e : Ep) (hi : RxInv e) : RxInv (runEp e evs) :=
  run_inv rxInv_step evs e hi

theorem view_segAccept (e : Ep) (flags tid : Nat) (cur data : Bytes) (o1 : List Out) :
    (segAccept e flags tid cur data o1).1.rxView =
      if hasEnd flags then ⟨e.processed, e.rxLog ++ [(tid, cur ++ data)], none, e.inSess, e.rx, e.rxBytes⟩
      else ⟨e.processed, e.rxLog, some (tid, cur ++ data), e.inSess, e.rx, e.rxBytes⟩ := by
  unfold segAccept
  simp only []
  split
  · rw [view_checkSessTerm]
    simp only [Ep.rxView, sendMessage, sendReady, kaReset, idleReset]
  · exact (view_sendMessage _ _).trans rfl

/-- what `recv_message` itself writes of the receive projection -/
def RxView.rcv (v : RxView) := (v.processed, v.rx, v.rxBytes)

theorem rcv_segAccept (e : Ep) (flags tid : Nat) (cur data : Bytes) (o1 : List Out) :
    (segAccept e flags tid cur data o1).1.rxView.rcv = e.rxView.rcv := by
  rw [view_segAccept]; split <;> rfl

theorem rcv_onContact (e : Ep) : (onContact e).1.rxView.rcv = e.rxView.rcv := by
  unfold onContact
  simp only []
  cases e.cfg.passive <;> simp

theorem rcv_onSessInit (e : Ep) (p : PeerInit) : (onSessInit e p).1.rxView.rcv = e.rxView.rcv := by
  unfold onSessInit
  rw [view_setState, view_mergeSession]
  simp only [Ep.rxView, RxView.rcv]
  split
  · simp only [sendInit, sendMessage, sendReady, kaReset, idleReset]
  · rfl

theorem frame_handleMsg (e : Ep) (m : Msg) :
    (handleMsg e m).1.processed = e.processed ++ [m] ∧ (handleMsg e m).1.rx = e.rx
      ∧ (handleMsg e m).1.rxBytes = e.rxBytes := by
  have h : (handleMsg e m).1.rxView.rcv = (e.processed ++ [m], e.rx, e.rxBytes) := by
    apply handleMsg_cases e (P := fun m r => r.1.rxView.rcv = (e.processed ++ [m], e.rx, e.rxBytes))
    case reject => intro m _; exact congrArg RxView.rcv (view_sendReject (e.proc m) rejUnexpected m)
    case keepalive | msgReject | ackMid => intros; rfl
    case contact => intro f; exact rcv_onContact _
    case sessInit => intros; exact rcv_onSessInit _ _
    case sessTerm =>
      intro f r _
      simp only [view_checkSessTerm, view_flush]
      split
      · exact congrArg RxView.rcv (view_sendSessTerm (e.proc (.sessTerm f r)) r true)
      · rfl
    case segStart | segNext => intros; exact rcv_segAccept _ _ _ _ _ _
    case ackEnd => intros; simp only [view_checkSessTerm]; rfl
    case refuse =>
      intros
      simp only [view_checkSessTerm]
      split
      · split
        · rw [view_pqTrigger]; rfl
        · rfl
      · rfl
  simpa [RxView.rcv, Ep.rxView] using h

theorem processed_handleMsg (e : Ep) (m : Msg) : (handleMsg e m).1.processed = e.processed ++ [m] :=
  (frame_handleMsg e m).1

theorem rx_handleMsg (e : Ep) (m : Msg) : (handleMsg e m).1.rx = e.rx := (frame_handleMsg e m).2.1

theorem Tr.processed_prefix {k : Kind} {a b : Ep} (h : Tr k a b) : a.processed <+: b.processed := by
  cases h <;>
    first
    | (simp only [mergeSession, kaReset, Ep.proc]
       first | exact List.prefix_refl _ | exact List.prefix_append _ _)
    | exact List.prefix_refl _

theorem processed_prefix_handleMsgs (ms : List Msg) (e : Ep) : e.processed <+: (handleMsgs e ms).1.processed :=
  (reach_handleMsgs ms e).inv (P := fun e' => e.processed <+: e'.processed)
    (fun _ _ _ t _ h => h.trans t.processed_prefix) (List.prefix_refl _)

theorem processed_prefix_step (e : Ep) (ev : Ev) : e.processed <+: (step e ev).1.processed :=
  step_inv (P := fun e' => e.processed <+: e'.processed) (fun _ _ _ t h => h.trans t.processed_prefix) e ev
    (List.prefix_refl _)

end Tcpcl
end DtnVerif
