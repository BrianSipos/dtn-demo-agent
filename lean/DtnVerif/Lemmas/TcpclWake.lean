/-
  No lost wake-up: whenever the endpoint has transmit work it could do (a transfer being segmented,
  or queued transfers with none in progress), an internal event that will make progress is enabled —
  an idle source for `_process_queue` is pending, or the message-level transmit buffer is non-empty
  (so the TX callback will run and `send_buffer_decreased` will re-trigger the queue).
-/
import DtnVerif.Lemmas.TcpclOuts
import DtnVerif.Lemmas.TcpclCodec
namespace DtnVerif
namespace Tcpcl

/-- `n` = number of idle sources that are about to be removed (1 inside a firing `_process_queue`) -/
structure WakeN (n : Nat) (e : Ep) : Prop where
  pend : e.pqPend = true → n < e.pqSources
  tmp : e.closed = false → e.txTmp.isSome = true → n < e.pqSources ∨ e.txBuf ≠ []
  start : e.closed = false → e.txTmp = none → e.txPendStart ≠ [] → n < e.pqSources

abbrev WakeInv (e : Ep) : Prop := WakeN 0 e

def WSame (e e' : Ep) : Prop :=
  e'.pqPend = e.pqPend ∧ e'.pqSources = e.pqSources ∧ e'.txTmp = e.txTmp ∧ e'.txPendStart = e.txPendStart
    ∧ e'.closed = e.closed ∧ (e.txBuf ≠ [] → e'.txBuf ≠ [])

def Ep.wv (e : Ep) := (e.pqPend, e.pqSources, e.txTmp, e.txPendStart, e.closed, e.txBuf)

theorem WSame.of_wv {e e' : Ep} (h : e'.wv = e.wv) : WSame e e' := by
  simp only [Ep.wv, Prod.mk.injEq] at h
  obtain ⟨h1, h2, h3, h4, h5, h6⟩ := h
  exact ⟨h1, h2, h3, h4, h5, fun hb => h6 ▸ hb⟩

theorem WSame.refl (e : Ep) : WSame e e := .of_wv rfl
theorem WSame.trans {a b c : Ep} (h1 : WSame a b) (h2 : WSame b c) : WSame a c :=
  ⟨h2.1.trans h1.1, h2.2.1.trans h1.2.1, h2.2.2.1.trans h1.2.2.1, h2.2.2.2.1.trans h1.2.2.2.1,
   h2.2.2.2.2.1.trans h1.2.2.2.2.1, fun h => h2.2.2.2.2.2 (h1.2.2.2.2.2 h)⟩

theorem WakeN.frame {n : Nat} {e e' : Ep} (hi : WakeN n e) (h : WSame e e') : WakeN n e' := by
  obtain ⟨h1, h2, h3, h4, h5, h6⟩ := h
  refine ⟨?_, ?_, ?_⟩
  · rw [h1, h2]; exact hi.pend
  · rw [h5, h3, h2]
    intro hc ht
    rcases hi.tmp hc ht with h | h
    · exact Or.inl h
    · exact Or.inr (h6 h)
  · rw [h5, h3, h4, h2]; exact hi.start

theorem WakeN.of_pos {n : Nat} {e : Ep} (h : n < e.pqSources) : WakeN n e :=
  ⟨fun _ => h, fun _ _ => Or.inl h, fun _ _ _ => h⟩

theorem WakeN.of_closed {n : Nat} {e : Ep} (hc : e.closed = true) (hp : e.pqPend = true → n < e.pqSources) : WakeN n e :=
  ⟨hp, fun h _ => (by rw [hc] at h; cases h), fun h _ _ => (by rw [hc] at h; cases h)⟩

theorem ws_sendMessage (e : Ep) (m : Msg) : WSame e (sendMessage e m) := by
  simp only [WSame, sendMessage, sendReady, kaReset, idleReset, true_and]
  exact fun h h' => h (List.append_eq_nil_iff.mp h').1
theorem ws_sendReject (e : Ep) (r : Nat) (m : Msg) : WSame e (sendReject e r m) := ws_sendMessage e (.msgReject m.type r)
theorem ws_mergeSession (e : Ep) (p : PeerInit) : WSame e (mergeSession e p) := by
  simp only [WSame, mergeSession, kaReset, idleReset, and_self, imp_self]
theorem ws_sendContact (e : Ep) : WSame e (sendContact e) :=
  (ws_sendMessage e (.contact 0)).trans (b := sendMessage e (.contact 0)) (.of_wv rfl)
theorem ws_sendInit (e : Ep) : WSame e (sendInit e) :=
  (ws_sendMessage e (.sessInit e.cfg.keepalive e.cfg.segMru sizeMax e.cfg.nodeId (sessionExt e.cfg))).trans
    (b := sendMessage e (.sessInit e.cfg.keepalive e.cfg.segMru sizeMax e.cfg.nodeId (sessionExt e.cfg)))
    (.of_wv rfl)
theorem ws_setState (e : Ep) (s : String) : WSame e (setState e s).1 := by
  unfold setState; split <;> exact (.of_wv rfl)

theorem wake_pqTrigger {n : Nat} (e : Ep) (hp : e.pqPend = true → n < e.pqSources) (hn : n ≤ e.pqSources) :
    WakeN n (pqTrigger e) := by
  unfold pqTrigger
  split
  · rename_i h; exact WakeN.of_pos (hp h)
  · exact WakeN.of_pos (Nat.lt_succ_of_le hn)

theorem wake_flush {n : Nat} (e : Ep) (hi : WakeN n e) : WakeN n (flushPendStart e).1 :=
  ⟨hi.pend, hi.tmp, fun _ _ h => absurd rfl h⟩

theorem wake_doClose {n : Nat} (e : Ep) (hi : WakeN n e) : WakeN n (doClose e).1 := by
  unfold doClose
  split
  · exact hi
  · exact WakeN.of_closed rfl hi.pend

theorem wake_checkSessTerm {n : Nat} (e : Ep) (hi : WakeN n e) : WakeN n (checkSessTerm e).1 := by
  unfold checkSessTerm; split
  · exact wake_doClose e hi
  · exact hi

theorem wake_sendSessTerm {n : Nat} (e : Ep) (r : Nat) (b : Bool) (hi : WakeN n e) : WakeN n (sendSessTerm e r b).1 := by
  unfold sendSessTerm
  split
  · exact hi
  · split
    · exact hi
    · simp only []
      have h1 : WSame e { e with inTerm := true } := (.of_wv rfl)
      exact wake_flush _ (WakeN.frame hi ((h1.trans (ws_setState _ _)).trans (ws_sendMessage _ _)))

theorem txBuf_sendMessage_ne (e : Ep) (m : Msg) : (sendMessage e m).txBuf ≠ [] := by
  simp only [sendMessage, sendReady, kaReset, idleReset]
  exact fun h => encode_ne_nil m (List.append_eq_nil_iff.mp h).2

theorem txBuf_sendContact_ne (e : Ep) : (sendContact e).txBuf ≠ [] := txBuf_sendMessage_ne e (.contact 0)

theorem txBuf_sendInit_ne (e : Ep) : (sendInit e).txBuf ≠ [] :=
  txBuf_sendMessage_ne e (.sessInit e.cfg.keepalive e.cfg.segMru sizeMax e.cfg.nodeId (sessionExt e.cfg))

theorem txBuf_pqTrigger (e : Ep) : (pqTrigger e).txBuf = e.txBuf := by
  unfold pqTrigger; split <;> rfl

theorem txBuf_setState (e : Ep) (s : String) : (setState e s).1.txBuf = e.txBuf := by
  unfold setState; split <;> rfl

/-- `_process_queue` never keeps its idle source after handing over a segment -/
theorem sendSegment_stays (e : Ep) (it : TxItem) (s : Nat) : (sendSegment e it s).2.2 = false := by
  unfold sendSegment; dsimp only; split
  · rfl
  · split <;> rfl

theorem wake_sendSegment (e : Ep) (it : TxItem) (s : Nat) (hp : e.cfg.privExt = false)
    (hpp : e.pqPend = false) (hs : 1 ≤ e.pqSources) : WakeN 1 (sendSegment e it s).1 := by
  unfold sendSegment
  simp only [hp, Bool.and_false, Bool.false_eq_true, if_false]
  split
  · refine wake_pqTrigger _ ?_ ?_ <;> dsimp only
    · rw [(ws_sendMessage e _).1, hpp]; exact fun h => nomatch h
    · rw [(ws_sendMessage e _).2.1]; exact hs
  · refine ⟨?_, fun _ _ => Or.inr ?_, fun _ h => nomatch h⟩ <;> dsimp only
    · rw [(ws_sendMessage e _).1, hpp]; exact fun h => nomatch h
    · exact txBuf_sendMessage_ne e _

theorem wake_processQueue (e : Ep) (hp : e.cfg.privExt = false) (hpp : e.pqPend = false) (hs : 1 ≤ e.pqSources) :
    if (processQueue e).2.2 then WakeN 0 (processQueue e).1 else WakeN 1 (processQueue e).1 := by
  unfold processQueue
  split
  · rename_i it sent h
    have := wake_sendSegment e it sent hp hpp hs
    simp only [sendSegment_stays, Bool.false_eq_true, if_false]; exact this
  · rename_i h
    split
    · simp only [if_true]
      exact ⟨by simp [hpp], by simp [h], fun _ _ _ => hs⟩
    · split
      · simp only [Bool.false_eq_true, if_false]
        refine wake_checkSessTerm _ ⟨by simp [flushPendStart, hpp], by simp [flushPendStart, h], ?_⟩
        intro _ _ hne
        exact absurd rfl hne
      · split
        · rename_i hps
          simp only [Bool.false_eq_true, if_false]
          exact ⟨by simp [hpp], by simp [h], by simp [hps]⟩
        · rename_i it rest hps
          simp only [sendSegment_stays, Bool.false_eq_true, if_false]
          exact wake_sendSegment _ it 0 hp hpp hs

/-- `hseg`: a transfer is segmented only with a positive segment size (from the transmit invariant) -/
theorem wake_pullTx (e : Ep) (hseg : e.txTmp.isSome = true → 0 < e.sendSegSize) (hi : WakeInv e) : WakeInv (pullTx e) := by
  unfold pullTx
  split
  · unfold sendBufferDecreased
    split
    · exact wake_pqTrigger _ hi.pend (Nat.zero_le _)
    · rename_i hlen
      refine ⟨hi.pend, ?_, hi.start⟩
      intro hc ht
      refine Or.inr ?_
      have hpos := hseg ht
      intro hnil
      have hl : 5 * e.sendSegSize ≤ (List.drop chunkSize e.txBuf).length := Nat.not_lt.mp hlen
      have h0 : (List.drop chunkSize e.txBuf).length = 0 := by
        rw [show List.drop chunkSize e.txBuf = [] from hnil]; rfl
      omega
  · exact hi

theorem wake_writeConn (e : Ep) (n : Nat) (up : Bool) (hi : WakeInv e) : WakeInv (writeConn e n up).1 := by
  unfold writeConn
  split
  · split
    · exact wake_checkSessTerm e hi
    · exact hi
  · simp only []
    split
    · exact hi
    · split
      · exact wake_checkSessTerm _ (WakeN.frame hi (.of_wv rfl))
      · exact WakeN.frame hi (.of_wv rfl)

theorem wake_pump (e : Ep) (n : Nat) (hseg : e.txTmp.isSome = true → 0 < e.sendSegSize) (hi : WakeInv e) :
    WakeInv (pump e n).1 := by
  unfold pump
  exact wake_writeConn _ _ _ (wake_pullTx e hseg hi)

theorem wake_onContact (e : Ep) (hi : WakeInv e) : WakeInv (onContact e).1 := by
  unfold onContact
  simp only []
  have h1 : WSame e (if e.cfg.passive then sendContact e else e) := by
    split
    · exact ws_sendContact e
    · exact WSame.refl e
  have h2 := h1.trans (ws_setState _ "session-negotiating")
  split
  · exact WakeN.frame hi (h2.trans (ws_sendInit _))
  · exact WakeN.frame hi h2

theorem wake_onSessInit (e : Ep) (p : PeerInit) (hi : WakeInv e) : WakeInv (onSessInit e p).1 := by
  unfold onSessInit
  simp only []
  have h1 : WSame e (if e.cfg.passive then sendInit e else e) := by
    split
    · exact ws_sendInit e
    · exact WSame.refl e
  have h2 : WSame (if e.cfg.passive then sendInit e else e)
      { (if e.cfg.passive then sendInit e else e) with peerInit := some p, inSess := true } :=
    (.of_wv rfl)
  exact WakeN.frame hi (((h1.trans h2).trans (ws_mergeSession _ p)).trans (ws_setState _ _))

theorem wake_segAccept (e : Ep) (flags tid : Nat) (cur data : Bytes) (o1 : List Out) (hi : WakeInv e) :
    WakeInv (segAccept e flags tid cur data o1).1 := by
  unfold segAccept
  simp only []
  split
  · have h := WakeN.frame hi (ws_sendMessage e (.xferAck flags tid (cur ++ data).length))
    generalize sendMessage e (.xferAck flags tid (cur ++ data).length) = e2 at h ⊢
    exact wake_checkSessTerm _ (WakeN.frame h (.of_wv rfl))
  · exact WakeN.frame hi (WSame.trans (b := { e with rxTmp := some (tid, cur ++ data) }) (.of_wv rfl)
      (ws_sendMessage { e with rxTmp := some (tid, cur ++ data) } (.xferAck flags tid (cur ++ data).length)))

theorem wake_handleMsg (e : Ep) (m : Msg) (hi : WakeInv e) : WakeInv (handleMsg e m).1 := by
  have h0 : ∀ m, WakeInv (e.proc m) := fun _ => WakeN.frame hi (.of_wv rfl)
  apply handleMsg_cases e (P := fun _ r => WakeInv r.1)
  case reject => intro m _; exact WakeN.frame (h0 m) (ws_sendReject _ _ m)
  case keepalive | msgReject => intros; exact h0 _
  case contact => intro f; exact wake_onContact _ (h0 _)
  case sessInit => intros; exact wake_onSessInit _ _ (h0 _)
  case sessTerm =>
    intro f r _
    have h1 := h0 (.sessTerm f r)
    generalize e.proc (.sessTerm f r) = e1 at h1 ⊢
    simp only []
    have h2 : WakeInv (if (!e1.inTerm) = true then sendSessTerm e1 r true else (e1, [])).1 := by
      split
      · exact wake_sendSessTerm e1 r true h1
      · exact h1
    exact wake_checkSessTerm _ (wake_flush _ (WakeN.frame h2 (.of_wv rfl)))
  case segStart => intros; exact wake_segAccept _ _ _ _ _ _ (WakeN.frame hi (.of_wv rfl))
  case segNext => intros; exact wake_segAccept _ _ _ _ _ _ (h0 _)
  case ackEnd => intros; exact wake_checkSessTerm _ (WakeN.frame hi (.of_wv rfl))
  case ackMid => intros; exact WakeN.frame hi (.of_wv rfl)
  case refuse =>
    intro r t _ _
    simp only []
    apply wake_checkSessTerm
    -- the unstarted queue only shrinks; an abandoned active transfer re-triggers the queue
    have h1 : WakeInv { e.proc (.xferRefuse r t) with txMap := e.txMap.erase t, txPendAck := e.txPendAck.erase t,
                                                      txPendStart := e.txPendStart.filter (·.tid != t) } := by
      refine ⟨hi.pend, hi.tmp, ?_⟩
      intro hc ht hne
      refine hi.start hc ht ?_
      intro hnil
      simp only [hnil, List.filter_nil, ne_eq, not_true_eq_false] at hne
    split
    · split
      · exact wake_pqTrigger _ h1.pend (Nat.zero_le _)
      · exact h1
    · exact h1

theorem wake_handleMsgs (ms : List Msg) (e : Ep) (hi : WakeInv e) : WakeInv (handleMsgs e ms).1 := by
  induction ms generalizing e with
  | nil => exact hi
  | cons m ms ih =>
    unfold handleMsgs
    split
    · exact hi
    · exact ih _ (wake_handleMsg _ m (WakeN.frame (e := e) hi (.of_wv rfl)))

theorem wake_recvRaw (e : Ep) (c : Bytes) (hi : WakeInv e) : WakeInv (recvRaw e c).1 := by
  unfold recvRaw
  simp only []
  have h0 : WakeInv (rxEntry e c) := WakeN.frame hi (.of_wv rfl)
  have h1 := wake_handleMsgs (feed e.rx c).2 _ h0
  have h2 : WakeInv { (handleMsgs (rxEntry e c) (feed e.rx c).2).1 with rxMore := false } :=
    WakeN.frame h1 (.of_wv rfl)
  split
  · exact wake_doClose _ h2
  · exact h2

theorem wake_step (e : Ep) (ev : Ev) (hp : e.cfg.privExt = false)
    (hseg : e.txTmp.isSome = true → 0 < e.sendSegSize) (hi : WakeInv e) : WakeInv (step e ev).1 := by
  apply step_cases e (P := fun _ r => WakeInv r.1)
  case idle | query => intros; exact hi
  case advance | modulate => intros; exact WakeN.frame hi (.of_wv rfl)
  case pop =>
    intro t
    have : WSame e (popRx e t).1 := by unfold popRx; split <;> exact (.of_wv rfl)
    exact WakeN.frame hi this
  case pqClosed => intro hc; exact WakeN.of_closed hc (by simp)
  case start =>
    intros
    have h1 : WSame e { e with started := true } := (.of_wv rfl)
    refine WakeN.frame hi (WSame.trans (b := (if (!e.cfg.passive) = true then sendContact { e with started := true }
      else { e with started := true })) ?_ (ws_setState _ _))
    split
    · exact h1.trans (ws_sendContact _)
    · exact h1
  case send => intros; exact wake_pqTrigger _ hi.pend (Nat.zero_le _)
  case terminate => intro _ r; exact wake_sendSessTerm e r false hi
  case close | rxEof => intros; exact wake_doClose e hi
  case procQueue =>
    intro _ hs
    have := wake_processQueue { e with pqPend := false } hp rfl hs
    simp only []
    split
    · rename_i hst
      simp only [hst, if_true] at this
      exact WakeN.frame this (.of_wv rfl)
    · rename_i hst
      simp only [hst, Bool.false_eq_true, if_false] at this
      refine ⟨fun h => ?_, fun h1 h2 => ?_, fun h1 h2 h3 => ?_⟩
      · have := this.pend h; simp only; omega
      · rcases this.tmp h1 h2 with h | h
        · exact Or.inl (by simp only; omega)
        · exact Or.inr h
      · have := this.start h1 h2 h3; simp only; omega
  case pump =>
    intro _ _ n
    have h1 : WakeInv { e with txIdle := false } := WakeN.frame hi (.of_wv rfl)
    exact WakeN.frame (wake_pump { e with txIdle := false } n hseg h1) (.of_wv rfl)
  case rx => intro _ c; exact wake_recvRaw e c hi
  case kaFire =>
    intros
    exact WakeN.frame hi (WSame.trans (b := { e with kaDeadline := none }) (.of_wv rfl)
      (ws_sendMessage { e with kaDeadline := none } .keepalive))
  case idleClose => intros; exact wake_doClose _ (WakeN.frame hi (.of_wv rfl))
  case idleTerm => intros; exact wake_sendSessTerm _ _ _ (WakeN.frame hi (.of_wv rfl))

theorem wake_init (cfg : Cfg) : WakeInv { cfg := cfg } :=
  ⟨by simp, by simp, by simp⟩

end Tcpcl
end DtnVerif
