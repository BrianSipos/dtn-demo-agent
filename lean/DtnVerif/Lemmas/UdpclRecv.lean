/- The RX fragment table and reassembly of `Udpcl.recvTransfer`. -/
import DtnVerif.Model.Udpcl
import DtnVerif.Lemmas.Bytes
import DtnVerif.Lemmas.Cover
import DtnVerif.Lemmas.KeyedRecv
import DtnVerif.Lemmas.UdpclLen
namespace DtnVerif
namespace Udpcl

theorem getX_eq (k : Key) (l : List (Key × Xfer)) : getX k l = Keyed.get k l := by
  induction l with
  | nil => rfl
  | cons e l ih => obtain ⟨k', x⟩ := e; simp only [getX, Keyed.get, ih]

theorem delX_eq (k : Key) (l : List (Key × Xfer)) : delX k l = Keyed.del k l := by
  induction l with
  | nil => rfl
  | cons e l ih => obtain ⟨k', x⟩ := e; simp only [delX, Keyed.del, ih]

theorem getX_delX (k k' : Key) (l : List (Key × Xfer)) :
    getX k (delX k' l) = if k' = k then none else getX k l := by
  rw [getX_eq, delX_eq, Keyed.get_del, getX_eq]

theorem getX_putX (k k' : Key) (x : Xfer) (l : List (Key × Xfer)) :
    getX k (putX k' x l) = if k' = k then some x else getX k l := by
  rw [putX, getX_eq, delX_eq, Keyed.get_cons_del, getX_eq]

theorem complete_iff (x : Xfer) :
    complete x = true ↔
      (∀ i, i < x.total → ∃ r ∈ x.valid, inRange r i = true) ∧
      (∀ r ∈ x.valid, r.1 < r.2 → r.2 ≤ x.total) := by
  simp only [complete, Bool.and_eq_true, List.all_eq_true, List.any_eq_true, List.mem_range,
    decide_eq_true_eq]

theorem inRange_iff (r : Nat × Nat) (i : Nat) : inRange r i = true ↔ r.1 ≤ i ∧ i < r.2 := by
  simp [inRange]

def Inv (data : Bytes) (x : Xfer) : Prop :=
  x.total = data.length ∧ x.data.length = data.length ∧
  ∀ r ∈ x.valid, r.2 ≤ data.length ∧ ∀ i, r.1 ≤ i → i < r.2 → x.data[i]? = data[i]?

/-- A `(total, offset, chunk)` message that really is a slice of `data`. -/
def GenuineT (data : Bytes) (t : Nat × Nat × Bytes) : Prop :=
  t.1 = data.length ∧ t.2.1 + t.2.2.length ≤ data.length ∧
  t.2.2 = (data.drop t.2.1).take t.2.2.length

theorem inv_upd (data : Bytes) (x : Xfer) (off : Nat) (chunk : Bytes) (hx : Inv data x)
    (hlen : off + chunk.length ≤ data.length)
    (hc : chunk = (data.drop off).take chunk.length) : Inv data (upd x off chunk) := by
  obtain ⟨ht, hl, hv⟩ := hx
  have hfit : off + chunk.length ≤ x.data.length := by omega
  refine ⟨ht, (splice_length _ _ _ hfit).trans hl, ?_⟩
  intro r hr
  -- `r` is the new range, where the spliced data is the chunk, or an old one, where every index
  -- either lies in the new range as well or was left alone
  rcases List.mem_cons.mp hr with rfl | hr
  · exact ⟨hlen, fun i h1 h2 => splice_agree _ _ _ _ _ hfit hc fun hn => absurd ⟨h1, h2⟩ hn⟩
  · exact ⟨(hv r hr).1, fun i h1 h2 => splice_agree _ _ _ _ _ hfit hc fun _ => (hv r hr).2 i h1 h2⟩

theorem complete_data (data : Bytes) (x : Xfer) (hx : Inv data x) (hc : complete x = true) :
    x.data = data := by
  obtain ⟨ht, hl, hv⟩ := hx
  obtain ⟨hcov, _⟩ := (complete_iff x).mp hc
  refine ext_of_agree hl fun i hi => ?_
  obtain ⟨r, hr, hin⟩ := hcov i (by omega)
  obtain ⟨h1, h2⟩ := (inRange_iff r i).mp hin
  exact (hv r hr).2 i h1 h2

theorem queued_addRx (k : Key) (s : Rx) (q : QItem) :
    queued k (addRx s q) = queued k s ++ (if fromKey k (s.rxId, q) = true then [q] else []) := by
  simp only [queued, addRx, List.filter_append, List.map_append]
  by_cases h : fromKey k (s.rxId, q) = true <;> simp [List.filter, h]

theorem fromKey_of (k k' : Key) (n len : Nat) (d : Bytes) :
    fromKey k (n, ⟨k'.addr, k'.port, some k'.xid, len, d⟩) = decide (k' = k) := by
  cases k; cases k'
  simp [fromKey, Bool.and_assoc]

theorem fromKey_bundle (k : Key) (n len : Nat) (a : String) (p : Nat) (d : Bytes) :
    fromKey k (n, ⟨a, p, none, len, d⟩) = false := by
  simp [fromKey]

def view (k : Key) (s : Rx) : Option Xfer × List QItem := (getX k s.frags, queued k s)

/-- The receiver's treatment of the `(total, offset, chunk)` messages of transfer `k`. -/
def mach (k : Key) : Keyed.Machine Xfer (Nat × Nat × Bytes) QItem where
  fresh m := ⟨m.1, [], List.replicate m.1 0⟩
  skip x m := decide (m.1 ≠ x.total)
  upd x m := upd x m.2.1 m.2.2
  complete := complete
  fin x := ⟨k.addr, k.port, some k.xid, x.total, x.data⟩

theorem view_applyFrag_other {k k' : Key} (h : k' ≠ k) (s : Rx) (x : Xfer) (off : Nat)
    (chunk : Bytes) : view k (applyFrag s k' x off chunk) = view k s := by
  unfold applyFrag view
  split
  · rw [queued_addRx, fromKey_of, decide_eq_false h]
    simp only [addRx, getX_delX, h, if_false, Bool.false_eq_true, List.append_nil, queued]
  · simp only [getX_putX, h, if_false, queued]

theorem view_applyFrag_self (k : Key) (s : Rx) (x : Xfer) (off : Nat) (chunk : Bytes) :
    view k (applyFrag s k x off chunk) =
      if complete (upd x off chunk) = true then
        (none, queued k s ++ [(mach k).fin (upd x off chunk)])
      else (some (upd x off chunk), queued k s) := by
  unfold applyFrag view
  split
  · rw [queued_addRx, fromKey_of, decide_eq_true rfl]
    simp only [addRx, getX_delX, if_true, queued, mach]
  · simp only [getX_putX, if_true, queued]

def mine (k : Key) : Ev → Option (Nat × Nat × Bytes)
  | .xfer k' total off chunk => if k' = k then some (total, off, chunk) else none
  | .bundle _ _ _ => none

theorem kev_eq (k : Key) (evs : List Ev) : kev k evs = evs.filterMap (mine k) := by
  induction evs with
  | nil => rfl
  | cons e evs ih =>
    cases e with
    | bundle a p d => simpa only [kev, List.filterMap_cons, mine] using ih
    | xfer k' total off chunk =>
      by_cases h : k' = k <;> simp only [kev, List.filterMap_cons, mine, h, if_true, if_false, ih]

theorem view_step_other (k : Key) (s : Rx) (e : Ev) (h : mine k e = none) :
    view k (step s e) = view k s := by
  cases e with
  | bundle a p d =>
    simp only [step, view, queued_addRx, fromKey_bundle, Bool.false_eq_true, if_false,
      List.append_nil]
    rfl
  | xfer k' total off chunk =>
    have hk : k' ≠ k := by intro hk; simp only [mine, hk, if_true] at h; cases h
    rw [step_xfer]
    cases getX k' s.frags with
    | none => exact view_applyFrag_other hk _ _ _ _
    | some x =>
      simp only []
      split
      · rfl
      · exact view_applyFrag_other hk _ _ _ _

theorem view_step_mine (k : Key) (s : Rx) (e : Ev) (m : Nat × Nat × Bytes) (h : mine k e = some m) :
    view k (step s e) = (mach k).step (view k s) m := by
  cases e with
  | bundle a p d => cases h
  | xfer k' total off chunk =>
    simp only [mine] at h
    split at h
    · rename_i hk
      cases h; subst hk
      rw [step_xfer]
      cases hx : getX k' s.frags with
      | none =>
        rw [view_applyFrag_self]
        simp [Keyed.Machine.step, view, hx, mach]
      | some x =>
        by_cases ht : total ≠ x.total
        · simp [Keyed.Machine.step, mach, ht, view, hx]
        · simp only []
          rw [if_neg ht, view_applyFrag_self]
          simp [Keyed.Machine.step, mach, ht, view, hx]
    · cases h

theorem kev_append (k : Key) (a b : List Ev) : kev k (a ++ b) = kev k a ++ kev k b := by
  simp only [kev_eq, List.filterMap_append]

theorem run_cons (s : Rx) (e : Ev) (rest : List Ev) : run s (e :: rest) = run (step s e) rest := rfl

theorem run_append (s : Rx) (a b : List Ev) : run s (a ++ b) = run (run s a) b := by
  simp [run, List.foldl_append]

theorem view_run {k : Key} {s : Rx} (h0 : getX k s.frags = none) (evs : List Ev) :
    view k (run s evs) = (kev k evs).foldl (mach k).step (none, queued k s) := by
  rw [kev_eq, ← h0]
  exact Keyed.foldl_view step (view k) (mine k) _ (view_step_other k) (view_step_mine k) evs s

/-- The queue entry a finished transfer `k` of `data` produces. -/
def item (k : Key) (data : Bytes) : QItem := ⟨k.addr, k.port, some k.xid, data.length, data⟩

def rng (t : Nat × Nat × Bytes) : Nat × Nat := (t.2.1, t.2.1 + t.2.2.length)

def DisjR (a b : Nat × Nat) : Prop := ∀ i, ¬ (inRange a i = true ∧ inRange b i = true)

theorem wanted_rng {data : Bytes} {t : Nat × Nat × Bytes} (hg : GenuineT data t)
    (hpos : 0 < t.2.2.length) : (rng t).1 < (rng t).2 ∧ (rng t).2 ≤ data.length :=
  ⟨Nat.lt_add_of_pos_right hpos, hg.2.1⟩

theorem not_complete_of_missing (data : Bytes) (x : Xfer) (hx : Inv data x) (w : Nat × Nat)
    (hw : w.1 < w.2 ∧ w.2 ≤ data.length) (hd : ∀ a ∈ x.valid, DisjR a w) : complete x = false := by
  cases hc : complete x with
  | false => rfl
  | true =>
    exfalso
    obtain ⟨hcov, _⟩ := (complete_iff x).mp hc
    obtain ⟨r, hr, hin⟩ := hcov w.1 (by rw [hx.1]; omega)
    exact hd r hr w.1 ⟨hin, (inRange_iff _ _).mpr ⟨Nat.le_refl _, hw.1⟩⟩

/-- The machine of transfer `k` reassembles `data` from slices of it: the entry agrees with `data`
    on the ranges it has (the marks), a complete entry covers every index, so it shares one with
    any non-empty range within `data`. -/
def spec (k : Key) (data : Bytes) : Keyed.Spec (mach k) (Nat × Nat) where
  ok := Inv data
  good := GenuineT data
  marks x := x.valid
  mark := rng
  apart := DisjR
  wanted w := w.1 < w.2 ∧ w.2 ≤ data.length
  enough l := ∀ i, i < data.length → ∃ a ∈ l, inRange a i = true
  res := item k data
  fresh_ok m hm := ⟨hm.1, List.length_replicate.trans hm.1, fun _ hr => nomatch hr⟩
  fresh_marks _ := rfl
  upd_ok x m hx hm _ := inv_upd data x m.2.1 m.2.2 hx hm.2.1 hm.2.2
  upd_marks _ _ := rfl
  skip_mark x m hx hm hs := by
    have : m.1 = x.total := hm.1.trans hx.1.symm
    simp [mach, this] at hs
  not_apart_self w hw h :=
    h w.1 ⟨(inRange_iff _ _).mpr ⟨Nat.le_refl _, hw.1⟩, (inRange_iff _ _).mpr ⟨Nat.le_refl _, hw.1⟩⟩
  fin_res x hx hc := by
    show (⟨k.addr, k.port, some k.xid, x.total, x.data⟩ : QItem) = item k data
    rw [complete_data data x hx hc, hx.1]; rfl
  missing x w hx hw hd := not_complete_of_missing data x hx w hw hd
  enough_mono l l' h hsub i hi := by
    obtain ⟨a, ha, hin⟩ := h i hi
    exact ⟨a, hsub a ha, hin⟩
  complete_of_enough x hx hen :=
    (complete_iff x).mpr ⟨by rw [hx.1]; exact hen, fun r hr _ => by rw [hx.1]; exact (hx.2.2 r hr).1⟩

end Udpcl
end DtnVerif
