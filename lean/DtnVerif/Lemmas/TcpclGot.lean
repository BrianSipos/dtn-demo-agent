/-
  The peer's SESS_TERM: once it has been recorded (`gotTerm`) the endpoint is itself terminating
  (it replied, or had asked first), and whenever a SESS_TERM has been processed, either one has been
  recorded or some MSG_REJECT has been emitted (the statement does not tie the reject to that SESS_TERM;
  the model rejects a SESS_TERM only outside a session).
-/
import DtnVerif.Lemmas.TcpclAckSucc
namespace DtnVerif
namespace Tcpcl

def GotInv (e : Ep) : Prop :=
  (e.gotTerm = true → e.inTerm = true)
  ∧ (∀ f r, Msg.sessTerm f r ∈ e.processed → e.gotTerm = true ∨ ∃ x ∈ e.emitted, x.isRej = true)

structure GotView where
  gotTerm : Bool
  inTerm : Bool
  processed : List Msg
  emitted : List Msg

def Ep.gotView (e : Ep) : GotView := ⟨e.gotTerm, e.inTerm, e.processed, e.emitted⟩

@[simp] theorem gv_kaReset (e : Ep) : (kaReset e).gotView = e.gotView := rfl
@[simp] theorem gv_idleReset (e : Ep) : (idleReset e).gotView = e.gotView := rfl

theorem got_grow {e e' : Ep} (ms y : List Msg)
    (h : e'.gotView = ⟨e.gotTerm, e.inTerm, e.processed ++ ms, e.emitted ++ y⟩) (hi : GotInv e)
    (hm : ∀ f r, Msg.sessTerm f r ∈ ms → ∃ x ∈ y, x.isRej = true) : GotInv e' := by
  simp only [Ep.gotView, GotView.mk.injEq] at h
  obtain ⟨h1, h2, h3, h4⟩ := h
  unfold GotInv
  rw [h1, h2, h3, h4]
  refine ⟨hi.1, fun f r hz => ?_⟩
  rcases List.mem_append.mp hz with hz | hz
  · rcases hi.2 f r hz with g | ⟨x, hx, hr⟩
    · exact Or.inl g
    · exact Or.inr ⟨x, List.mem_append_left _ hx, hr⟩
  · obtain ⟨x, hx, hr⟩ := hm f r hz
    exact Or.inr ⟨x, List.mem_append_right _ hx, hr⟩

theorem got_emit {a b : Ep} (hi : GotInv a) (he : ∀ x ∈ a.emitted, x ∈ b.emitted)
    (h : (b.gotTerm, b.inTerm, b.processed) = (a.gotTerm, a.inTerm, a.processed)) : GotInv b := by
  simp only [Prod.mk.injEq] at h
  obtain ⟨h1, h2, h3⟩ := h
  unfold GotInv
  rw [h1, h2, h3]
  exact ⟨hi.1, fun f r hz => (hi.2 f r hz).imp_right fun ⟨x, hx, hr⟩ => ⟨x, he x hx, hr⟩⟩

/-- `gotTerm` is set only while terminating (`gotTerm`), `inTerm` is never cleared, and a SESS_TERM is
    recorded either with `gotTerm` or with a MSG_REJECT (`reject`) -/
theorem got_tr {k : Kind} {a b : Ep} (h : Tr k a b) (hi : GotInv a) : GotInv b := by
  have hem := h.emitted_sub
  cases h with
  | inTerm _ _ _ => exact ⟨fun _ => rfl, hi.2⟩
  | proc _ m hp =>
    refine got_grow [m] [] (by simp only [Ep.gotView, Ep.proc, List.append_nil]) hi (fun f r hz => ?_)
    cases List.mem_singleton.mp hz; cases hp
  | reject _ r m =>
    exact got_grow [m] [.msgReject m.type r]
      (by simp only [Ep.gotView, Ep.sent, Ep.proc])
      hi (fun _ _ _ => ⟨_, List.mem_singleton_self _, rfl⟩)
  | merge _ p x =>
    exact got_grow [.sessInit p.keepalive p.segMru p.xferMru p.node x] []
      (by simp only [Ep.gotView, mergeSession, kaReset, idleReset, Ep.proc, List.append_nil]) hi nofun
  | gotTerm _ f r _ ht => exact ⟨fun _ => ht, fun _ _ _ => Or.inl rfl⟩
  | rxMid _ f t x d cur _ _ _ =>
    exact got_grow [.xferSegment f t x d] [.xferAck f t (cur ++ d).length]
      (by simp only [Ep.gotView, Ep.sent, Ep.proc]) hi nofun
  | rxEnd _ f t x d cur _ _ _ =>
    exact got_grow [.xferSegment f t x d] [.xferAck f t (cur ++ d).length]
      (by simp only [Ep.gotView, Ep.sent, Ep.proc]) hi nofun
  | ackEnd _ f t l _ _ _ _ =>
    exact got_grow [.xferAck f t l] [] (by simp only [Ep.gotView, Ep.proc, List.append_nil]) hi nofun
  | ackMid _ f t l _ _ _ =>
    exact got_grow [.xferAck f t l] [] (by simp only [Ep.gotView, Ep.proc, List.append_nil]) hi nofun
  | refused _ r t _ _ =>
    exact got_grow [.xferRefuse r t] [] (by simp only [Ep.gotView, Ep.proc, List.append_nil]) hi nofun
  | _ => exact got_emit hi hem rfl

theorem got_step (e : Ep) (ev : Ev) (hi : GotInv e) : GotInv (step e ev).1 :=
  step_inv (fun _ _ _ => got_tr) e ev hi

theorem got_init (cfg : Cfg) : GotInv { cfg := cfg } :=
  ⟨(by intro h; cases h), (by intro _ _ h; simp at h)⟩

theorem got_run (evs : List Ev) (e : Ep) (hi : GotInv e) : GotInv (runEp e evs) :=
  run_inv got_step evs e hi

end Tcpcl
end DtnVerif
