/- Ids of the UDPCL receive queue (`_rx_id`, `_rx_queue`, pop). -/
import DtnVerif.Model.Udpcl
import DtnVerif.Lemmas.UdpclLen
namespace DtnVerif
namespace Udpcl

def IdsOK (s : Rx) : Prop :=
  (∀ e ∈ s.queue, e.1 < s.rxId) ∧ s.queue.Pairwise (fun a b => a.1 < b.1)

def Ext (s s' : Rx) : Prop :=
  s.rxId ≤ s'.rxId ∧ ∃ ex, s'.queue = s.queue ++ ex ∧
    (∀ e ∈ ex, s.rxId ≤ e.1 ∧ e.1 < s'.rxId) ∧ ex.Pairwise (fun a b => a.1 < b.1)

theorem Ext.of_eq {s s' : Rx} (hq : s'.queue = s.queue) (hr : s'.rxId = s.rxId) : Ext s s' :=
  ⟨by omega, [], by simp [hq], (fun e he => by cases he), List.Pairwise.nil⟩

theorem Ext.refl (s : Rx) : Ext s s := Ext.of_eq rfl rfl

theorem Ext.trans {a b c : Rx} (h1 : Ext a b) (h2 : Ext b c) : Ext a c := by
  obtain ⟨r1, e1, q1, b1, p1⟩ := h1
  obtain ⟨r2, e2, q2, b2, p2⟩ := h2
  refine ⟨by omega, e1 ++ e2, by rw [q2, q1, List.append_assoc], ?_, ?_⟩
  · intro e he
    rcases List.mem_append.mp he with h | h
    · have := b1 e h; omega
    · have := b2 e h; omega
  · rw [List.pairwise_append]
    refine ⟨p1, p2, ?_⟩
    intro x hx y hy
    have := b1 x hx; have := b2 y hy; omega

theorem Ext.addRx (s : Rx) (q : QItem) : Ext s (addRx s q) := by
  refine ⟨by simp [Udpcl.addRx], [(s.rxId, q)], rfl, ?_, by simp⟩
  intro e he
  simp only [List.mem_singleton] at he
  subst he; simp [Udpcl.addRx]

theorem Ext.idsOK {s s' : Rx} (h : Ext s s') (hs : IdsOK s) : IdsOK s' := by
  obtain ⟨r, ex, hq, hb, hp⟩ := h
  obtain ⟨h1, h2⟩ := hs
  refine ⟨?_, ?_⟩
  · intro e he
    rw [hq] at he
    rcases List.mem_append.mp he with h | h
    · have := h1 e h; omega
    · exact (hb e h).2
  · rw [hq, List.pairwise_append]
    refine ⟨h2, hp, ?_⟩
    intro x hx y hy
    have := h1 x hx; have := hb y hy; omega

theorem applyFrag_ext (s : Rx) (k : Key) (x : Xfer) (off : Nat) (chunk : Bytes) :
    Ext s (applyFrag s k x off chunk) := by
  unfold applyFrag
  split
  · exact Ext.trans (Ext.of_eq rfl rfl) (Ext.addRx _ _)
  · exact Ext.of_eq rfl rfl

theorem step_ext (s : Rx) (e : Ev) : Ext s (step s e) := by
  cases e with
  | bundle a p d => exact Ext.addRx _ _
  | xfer k total off chunk =>
    rcases step_xfer_cases s k total off chunk with h | ⟨x, _, h⟩
    · rw [h]; exact Ext.refl s
    · rw [h]; exact applyFrag_ext _ _ _ _ _

theorem run_ext (s : Rx) (evs : List Ev) : Ext s (run s evs) :=
  evs.foldlRecOn step (Ext.refl s) fun t ht e _ => ht.trans (step_ext t e)

theorem recvDatagram_ext (rej : Bool) (s : Rx) (addr : String) (port : Nat) (data : Bytes) :
    Ext s (recvDatagram rej s addr port data).1 := by
  obtain ⟨evs, h, _⟩ := recvDatagram_run rej s addr port data
  rw [h]; exact run_ext s evs

theorem popData_eq_some {s s' : Rx} {bid : Nat} {d : Bytes} (h : popData s bid = some (d, s')) :
    s' = { s with queue := s.queue.filter (fun q => q.1 != bid) } ∧
      ∃ q ∈ s.queue, q.1 = bid ∧ q.2.data = d := by
  unfold popData at h
  cases hf : s.queue.find? (fun q => q.1 == bid) with
  | none => rw [hf] at h; cases h
  | some q =>
    rw [hf] at h; cases h
    exact ⟨rfl, q, List.mem_of_find?_eq_some hf, by simpa using List.find?_some hf, rfl⟩

theorem popData_queueIds {s s' : Rx} {bid : Nat} {d : Bytes} (h : popData s bid = some (d, s')) :
    queueIds s' = (queueIds s).filter (· != bid) := by
  rw [(popData_eq_some h).1]
  simp only [queueIds, List.filter_map]
  congr 1

theorem popData_idsOK (s s' : Rx) (bid : Nat) (d : Bytes) (h : popData s bid = some (d, s'))
    (hs : IdsOK s) : IdsOK s' ∧ s'.rxId = s.rxId := by
  obtain ⟨rfl, _⟩ := popData_eq_some h
  exact ⟨⟨fun e he => hs.1 e (List.mem_filter.mp he).1, hs.2.filter _⟩, rfl⟩

theorem opStep_pop (s : Rx) (bid : Nat) :
    (opStep s (.pop bid)).rxId = s.rxId ∧ ∀ e ∈ (opStep s (.pop bid)).queue, e ∈ s.queue := by
  simp only [opStep]
  cases hp : popData s bid with
  | none => exact ⟨rfl, fun _ he => he⟩
  | some p =>
    obtain ⟨d, s'⟩ := p
    obtain ⟨rfl, _⟩ := popData_eq_some hp
    exact ⟨rfl, fun _ he => (List.mem_filter.mp he).1⟩

theorem opStep_idsOK (s : Rx) (op : Op) (hs : IdsOK s) : IdsOK (opStep s op) := by
  cases op with
  | dgram rej addr port data => exact (recvDatagram_ext rej s addr port data).idsOK hs
  | pop bid =>
    simp only [opStep]
    cases hp : popData s bid with
    | none => exact hs
    | some p => exact (popData_idsOK s p.2 bid p.1 hp hs).1

theorem dictSet_fresh (bid : Nat) (q : QItem) : ∀ (l : List (Nat × QItem)),
    (∀ e ∈ l, e.1 ≠ bid) → dictSet bid q l = l ++ [(bid, q)] := by
  intro l
  induction l with
  | nil => intro _; rfl
  | cons e l ih =>
    intro h
    obtain ⟨i, x⟩ := e
    have hi : i ≠ bid := h (i, x) List.mem_cons_self
    simp only [dictSet, hi, if_false, List.cons_append]
    rw [ih (fun e he => h e (List.mem_cons_of_mem _ he))]

theorem popData_exact (s : Rx) (hs : IdsOK s) (bid : Nat) (q : QItem) (hm : (bid, q) ∈ s.queue) :
    ∃ s', popData s bid = some (q.data, s') ∧ popData s' bid = none ∧
      queueIds s' = (queueIds s).filter (· != bid) ∧
      ∀ e ∈ s.queue, e.1 ≠ bid → e ∈ s'.queue := by
  have h2 := hs.2
  have hfind : ∃ e, s.queue.find? (fun q => q.1 == bid) = some e := by
    cases hf : s.queue.find? (fun q => q.1 == bid) with
    | some e => exact ⟨e, rfl⟩
    | none =>
      have := List.find?_eq_none.mp hf (bid, q) hm
      simp at this
  obtain ⟨e, he⟩ := hfind
  have hemem := List.mem_of_find?_eq_some he
  have heid : e.1 = bid := by simpa using List.find?_some he
  have : e = (bid, q) :=
    nodup_map_inj (·.1) s.queue (List.pairwise_map.mpr (h2.imp Nat.ne_of_lt)) e (bid, q) hemem hm heid
  subst this
  have hpop : popData s bid = some (q.data, { s with queue := s.queue.filter (fun q => q.1 != bid) }) := by
    simp only [popData, he]
  refine ⟨_, hpop, ?_, popData_queueIds hpop, ?_⟩
  · simp only [popData]
    have : (s.queue.filter (fun q => q.1 != bid)).find? (fun q => q.1 == bid) = none := by
      rw [List.find?_eq_none]
      intro x hx
      have := (List.mem_filter.mp hx).2
      simp at this ⊢; exact this
    rw [this]
  · intro x hx hne
    exact List.mem_filter.mpr ⟨hx, by simpa using hne⟩

theorem popData_absent (s : Rx) (bid : Nat) (h : bid ∉ queueIds s) : popData s bid = none := by
  unfold popData
  have : s.queue.find? (fun q => q.1 == bid) = none := by
    rw [List.find?_eq_none]
    intro x hx hxb
    apply h
    simp only [queueIds, List.mem_map]
    exact ⟨x, hx, by simpa using hxb⟩
  rw [this]

end Udpcl
end DtnVerif
