/-
  C06 — fragments reassemble to the original bundle once, in any arrival order.
  Models: DtnVerif.Model.Reasm (bp/app/fragment.py `_reassemble` inside bp/agent.py `recv_bundle`),
  DtnVerif.Model.Cover.
  A history is any list of events: the CL hands over a bundle (`recv`) or the j-th pending
  re-injection callback runs (`idle j`). Induction over that list is the quantifier "every arrival
  order, every duplication, every interleaving with other bundles' fragments and with idle callbacks".
-/
import DtnVerif.Lemmas.Reasm
import DtnVerif.Generated.Facts
namespace DtnVerif
namespace Props
open Bp Frag Reasm Cover

def stepOrderRx (name : String) : Option Int :=
  (Facts.chainSteps.find? (fun s => s.1 == "rx_chain" && s.2.2.1 == name)).map (fun s => s.2.1)

def deliveredOf (k : Key) (s : AState) : List FBundle := s.delivered.filter (hasKey k)
def pendingOf (k : Key) (s : AState) : List FBundle := s.pending.filter (hasKey k)

private theorem inv_of_run (cfg : RCfg) (k : Key) (P : Bytes) (hist : List Ev)
    (hcons : ∀ b ∈ kfrags k hist, ConsFrag cfg k P b) :
    Inv cfg P (kfrags k hist) (proj k (run cfg AState.init hist)) := by
  have := (run_inv cfg k P hist AState.init [] tableWf_init (inv_init cfg P k) (by simpa using hcons)).2
  simpa using this

/-- **C06_no_early.** Whatever else is received and whenever the idle callbacks run: if a bundle of key
    `k` has been delivered (or is scheduled for re-injection), the fragments of `k` received so far
    cover [0, total). -/
theorem C06_no_early (cfg : RCfg) (k : Key) (P : Bytes) (hist : List Ev)
    (hcons : ∀ b ∈ kfrags k hist, ConsFrag cfg k P b)
    (hd : deliveredOf k (run cfg AState.init hist) ≠ [] ∨ pendingOf k (run cfg AState.init hist) ≠ []) :
    covered ((kfrags k hist).map rangeOf) P.length :=
  (inv_of_run cfg k P hist hcons).early (hd.symm)

/-- the same at the level of one step, with no assumption on the fragments at all: the reassembly
    step schedules a bundle only when the ranges spliced into the entry (this one included) are
    exactly [0, total) -/
theorem C06_no_early_step (crcFn : Nat → Bytes → Bytes) (cur : Option Entry) (b rb : FBundle) (d : Bytes)
    (hd : b.payload = some d) (h : (reasmEntry crcFn cur b).2 = .cleared (some rb)) :
    exact ((b.primary.fragOff, d.length) :: (entryOf cur b).ranges) (entryOf cur b).total := by
  simp only [reasmEntry, hd, finish] at h
  split at h
  · rename_i hx; exact (exactB_iff _ _).1 hx
  · simp at h

/-- what every correctly synthesised bundle contains: payload `P`, and all other blocks those of the
    offset-0 fragment it was built from -/
theorem C06_synth_content (cfg : RCfg) (k : Key) (P : Bytes) (fr : List FBundle) (rb : FBundle)
    (hcons : ∀ b ∈ fr, ConsFrag cfg k P b) (h : Synth cfg P fr rb) :
    (norm rb).payload = some P ∧
    ∃ f0 ∈ fr, f0.primary.fragOff = 0 ∧
      (norm rb).blocks.filter (fun x => x.c.blockNum != 1) = (norm f0).blocks.filter (fun x => x.c.blockNum != 1) := by
  obtain ⟨f0, hm, h0, rfl⟩ := h
  obtain ⟨d0, hd0, _, _⟩ := (hcons f0 hm).data
  exact ⟨synth_payload cfg.crcFn f0 d0 P hd0, f0, hm, h0, synth_ext_blocks cfg.crcFn f0 P⟩

/-- **C06_complete (full strength since fix dc31f2b).** Let the history contain — in any order, with
    any duplicates, overlapping or not, interleaved with anything of other keys and with idle
    callbacks at any time — fragments of the bundle `k` that cover the payload `P`.
    The only hypothesis left is `ConsFrag` for the fragments of `k` in the history: each really is a
    fragment of that bundle (fragment flag, total length |P|, its data is the slice of `P` at its
    offset) and passes the gates in front of reassembly (CRCs valid, not our own source, routed to
    'deliver', unique block numbers). Nothing is assumed about offsets or lengths.
    Then exactly one bundle of key `k` has been delivered, or none yet and at least one re-injection
    awaits its idle callback; every such bundle is synthesised from an offset-0 fragment received
    (`Synth`), hence has payload `P` and that fragment's other blocks (`C06_synth_content`). -/
theorem C06_complete (cfg : RCfg) (k : Key) (P : Bytes) (hist : List Ev)
    (hcons : ∀ b ∈ kfrags k hist, ConsFrag cfg k P b)
    (hne : kfrags k hist ≠ []) (hcov : covered ((kfrags k hist).map rangeOf) P.length) :
    (∃ rb, Synth cfg P (kfrags k hist) rb ∧ deliveredOf k (run cfg AState.init hist) = [norm rb]) ∨
    (deliveredOf k (run cfg AState.init hist) = [] ∧ pendingOf k (run cfg AState.init hist) ≠ [] ∧
      ∀ rb ∈ pendingOf k (run cfg AState.init hist), Synth cfg P (kfrags k hist) rb) := by
  have hI := inv_of_run cfg k P hist hcons
  rcases hI.del with hd | ⟨rb, h1, h2⟩
  · right
    refine ⟨hd, ?_, hI.pend⟩
    intro hp
    rcases hI.fresh hp hd with ⟨h, _⟩ | ⟨e, he, hsup⟩
    · exact hne h
    · obtain ⟨hG, hnx⟩ := hI.entry e he
      apply hnx
      refine ⟨covered_mono hsup _ hcov, ?_⟩
      intro r hr _
      obtain ⟨b, hb, rfl⟩ := List.mem_map.1 (hG.sub r hr)
      obtain ⟨d, hd', hle, _⟩ := (hcons b hb).data
      simpa [rangeOf, hd'] using hle
  · exact Or.inl ⟨rb, h1, h2⟩

/-- … hence, once the loop is quiescent, exactly one delivery: payload `P`, extension blocks of an
    offset-0 fragment received. -/
theorem C06_complete_quiescent (cfg : RCfg) (k : Key) (P : Bytes) (hist : List Ev)
    (hcons : ∀ b ∈ kfrags k hist, ConsFrag cfg k P b)
    (hne : kfrags k hist ≠ []) (hcov : covered ((kfrags k hist).map rangeOf) P.length)
    (hq : (run cfg AState.init hist).pending = []) :
    ∃ R, deliveredOf k (run cfg AState.init hist) = [R] ∧ R.payload = some P ∧
      ∃ f0 ∈ kfrags k hist, f0.primary.fragOff = 0 ∧
        R.blocks.filter (fun x => x.c.blockNum != 1) = (norm f0).blocks.filter (fun x => x.c.blockNum != 1) := by
  rcases C06_complete cfg k P hist hcons hne hcov with ⟨rb, h1, h2⟩ | ⟨_, hp, _⟩
  · obtain ⟨c1, c2⟩ := C06_synth_content cfg k P _ rb hcons h1
    exact ⟨norm rb, h2, c1, c2⟩
  · simp [pendingOf, hq] at hp

/-- **C06_at_most_once (re-injection de-duplication).** With no coverage assumption at all and for
    histories containing any number of complete covers of the bundle — the same fragmentation again,
    or differently cut ones whose fragments have fresh identities and therefore complete a second and
    a third reassembly —: at most one bundle of key `k` is ever delivered. The reassembled bundle is
    re-injected through `recv_bundle`, its identity (source, time, sequence; not a fragment) enters the
    seen set at the first delivery, and every later re-injection is absorbed there
    (`Inv.seenNone`, `idle_key_step`). Together with `C06_complete`: exactly one. -/
theorem C06_at_most_once (cfg : RCfg) (k : Key) (P : Bytes) (hist : List Ev)
    (hcons : ∀ b ∈ kfrags k hist, ConsFrag cfg k P b) :
    (deliveredOf k (run cfg AState.init hist)).length ≤ 1 ∧
    ((run cfg AState.init hist).seen ⟨k, none⟩ = true ↔ deliveredOf k (run cfg AState.init hist) ≠ []) := by
  have hI := inv_of_run cfg k P hist hcons
  refine ⟨?_, hI.seenNone⟩
  show (proj k (run cfg AState.init hist)).delivered.length ≤ 1
  rcases hI.del with h | ⟨rb, _, h⟩ <;> rw [h] <;> simp

/-- **C06_no_mix (frame).** An event that is not about key `k` — a bundle or fragment of another
    source / creation time / sequence number, or the re-injection of another bundle — leaves
    everything about `k` untouched: table entry, seen identities, pending re-injections, deliveries.
    No assumption on the event's bundle. -/
theorem C06_no_mix (cfg : RCfg) (s : AState) (ev : Ev) (k : Key) (hw : TableWf s.table)
    (hk : evKeyIs k s ev = false) : proj k (step cfg s ev) = proj k s ∧ TableWf (step cfg s ev).table :=
  ⟨step_frame cfg s ev k hw hk, step_wf cfg s ev hw⟩

/-- permutation / duplication invariance of coverage -/
theorem C06_cover_perm {rs rs' : List Range} (h : rs.Perm rs') (t : Nat) : covered rs t ↔ covered rs' t :=
  covered_perm h t

theorem C06_cover_dup (r : Range) (rs : List Range) (hr : r ∈ rs) (t : Nat) :
    covered (r :: rs) t ↔ covered rs t := covered_dup r rs hr t

/-- the executable test the model (and the driver) use is the specification -/
theorem C06_cover_decide (rs : List Range) (t : Nat) :
    (coveredB rs t = true ↔ covered rs t) ∧ (exactB rs t = true ↔ exact rs t) :=
  ⟨coveredB_iff rs t, exactB_iff rs t⟩

def cfgR : RCfg := { nodeId := .dtn "//node/".toUTF8.toList, deliver := fun _ => true, crcOk := fun _ => true,
                     crcFn := fun t _ => zeros (crcWidth t) }
def PW : Bytes := (List.range 30).map UInt8.ofNat
def srcW : Eid := .dtn "//src/".toUTF8.toList
def kW : Key := ⟨srcW, 9, 1⟩

/-- As decoded from the wire: the blocks carry a scapy layer. -/
def mkFrag (src : Eid) (off len : Nat) : FBundle :=
  { primary := { flags := 1, crcType := 1, dest := .dtn "//dst/svc".toUTF8.toList, src := src, ts := ⟨9, 1⟩,
                 lifetime := 100000, fragOff := off, totalLen := 30, crc := some [0, 0] },
    blocks := [{ c := { typeCode := 7, blockNum := 2, flags := 1, btsd := some [off.toUInt8] },
                 layer := some [off.toUInt8] },
               { c := { typeCode := 1, blockNum := 1, btsd := some ((PW.drop off).take len) },
                 layer := some ((PW.drop off).take len) }] }

private theorem consFrag_mk (off len : Nat) (h : off + len ≤ 30) : ConsFrag cfgR kW PW (mkFrag srcW off len) := by
  have hl : ((PW.drop off).take len).length = len := by
    have : PW.length = 30 := by decide
    simp [this]; omega
  have h1 : isFragment (mkFrag srcW off len).primary.flags = true := by
    show isFragment 1 = true; decide
  have h2 : numsOk (mkFrag srcW off len) = true := by
    simp [numsOk, mkFrag]
  have h3 : ((mkFrag srcW off len).primary.src == cfgR.nodeId) = false := by
    show (srcW == cfgR.nodeId) = false; decide +kernel
  refine ⟨rfl, h1, rfl, h2, rfl, h3, rfl, ⟨(PW.drop off).take len, rfl, ?_, ?_⟩, fun _ => rfl⟩
  · show off + ((PW.drop off).take len).length ≤ PW.length
    rw [hl]; exact h
  · show (PW.drop off).take len = (PW.drop off).take ((PW.drop off).take len).length
    rw [hl]

private theorem consFrag_all (l : List (Nat × Nat)) (h : ∀ x ∈ l, x.1 + x.2 ≤ 30) :
    ∀ b ∈ l.map (fun x => mkFrag srcW x.1 x.2), ConsFrag cfgR kW PW b := by
  intro b hb
  obtain ⟨x, hx, rfl⟩ := List.mem_map.1 hb
  exact consFrag_mk x.1 x.2 (h x hx)

def histOk : List Ev :=
  [.recv (mkFrag srcW 10 20), .recv (mkFrag (.dtn "//other/".toUTF8.toList) 0 30), .recv (mkFrag srcW 0 10),
   .recv (mkFrag srcW 10 20), .idle 0, .idle 0]

/-- Distinct fragments sharing offset 0. -/
def histBad : List Ev :=
  [.recv (mkFrag srcW 0 10), .recv (mkFrag srcW 0 20), .recv (mkFrag srcW 20 10), .idle 0]

def histGood : List Ev :=
  [.recv (mkFrag srcW 0 20), .recv (mkFrag srcW 0 10), .recv (mkFrag srcW 20 10), .idle 0]

example : (∀ b ∈ kfrags kW histOk, ConsFrag cfgR kW PW b) ∧
    kfrags kW histOk ≠ [] ∧ covered ((kfrags kW histOk).map rangeOf) PW.length ∧
    (run cfgR AState.init histOk).delivered.length = 2 ∧
    deliveredOf kW (run cfgR AState.init histOk) = [norm (synth cfgR.crcFn (norm (mkFrag srcW 0 10)) PW)] := by
  have hk : kfrags kW histOk = [(10, 20), (0, 10), (10, 20)].map (fun x => mkFrag srcW x.1 x.2) := by
    decide +kernel
  rw [hk]
  exact ⟨consFrag_all _ (by decide), by simp, (coveredB_iff _ _).1 (by decide +kernel), by decide +kernel,
    by decide +kernel⟩

/-- … and on the former counterexample: both arrival orders of the overlapping set deliver `PW`;
    the extension blocks are those of the offset-0 fragment accepted last before completion -/
theorem C06_complete_overlap_instances :
    (deliveredOf kW (run cfgR AState.init histBad)).map FBundle.payload = [some PW] ∧
    (deliveredOf kW (run cfgR AState.init histGood)).map FBundle.payload = [some PW] ∧
    (∀ b ∈ kfrags kW histBad, ConsFrag cfgR kW PW b) := by
  have hk : kfrags kW histBad = [(0, 10), (0, 20), (20, 10)].map (fun x => mkFrag srcW x.1 x.2) := by
    decide +kernel
  exact ⟨by decide +kernel, by decide +kernel, hk ▸ consFrag_all _ (by decide)⟩

def histCovers : List Ev :=
  [.recv (mkFrag srcW 0 10), .recv (mkFrag srcW 10 20), .idle 0,
   .recv (mkFrag srcW 0 15), .recv (mkFrag srcW 15 15), .idle 0,
   .recv (mkFrag srcW 0 30), .idle 0]

def histCoversLate : List Ev :=
  [.recv (mkFrag srcW 0 10), .recv (mkFrag srcW 10 20), .recv (mkFrag srcW 0 15), .recv (mkFrag srcW 15 15),
   .recv (mkFrag srcW 0 30), .idle 2, .idle 0, .idle 0]

/-- the second and third cover complete a reassembly again (their fragments have fresh identities),
    yet the bundle is delivered once -/
theorem C06_second_cover_absorbed :
    (deliveredOf kW (run cfgR AState.init histCovers)).map FBundle.payload = [some PW] ∧
    (run cfgR AState.init histCovers).pending = [] ∧
    (run cfgR AState.init (histCovers.take 5)).pending.length = 1 ∧
    (pendingOf kW (run cfgR AState.init (histCoversLate.take 5))).length = 3 ∧
    (deliveredOf kW (run cfgR AState.init histCoversLate)).map FBundle.payload = [some PW] ∧
    (run cfgR AState.init histCoversLate).pending = [] := by
  refine ⟨by decide +kernel, by decide +kernel, by decide +kernel, by decide +kernel, by decide +kernel,
    by decide +kernel⟩

/-- **What reassembly does to the primary block (after fix dffcae7; formerly D28).** The synthesised
    bundle's primary block is the offset-0 fragment's with the fragment flag cleared and the CRC value
    recomputed: every other field — in particular the CRC type — is kept, so the primary block is the
    original's (whose fragments differ from it only in flag, offset, total length and CRC value), and a
    BIB whose AAD covers the primary block verifies again on the reassembled bundle. -/
theorem C06_synth_primary (crcFn : Nat → Bytes → Bytes) (f : FBundle) (d : Bytes) :
    (synth crcFn f d).primary.crcType = f.primary.crcType ∧
    (synth crcFn f d).primary.flags = clearFragFlag f.primary.flags ∧
    (synth crcFn f d).primary.version = f.primary.version ∧ (synth crcFn f d).primary.dest = f.primary.dest ∧
    (synth crcFn f d).primary.src = f.primary.src ∧ (synth crcFn f d).primary.rpt = f.primary.rpt ∧
    (synth crcFn f d).primary.ts = f.primary.ts ∧ (synth crcFn f d).primary.lifetime = f.primary.lifetime ∧
    (synth crcFn f d).primary = updPrimary crcFn { f.primary with flags := clearFragFlag f.primary.flags, crc := none } := by
  refine ⟨?_, ?_, ?_, ?_, ?_, ?_, ?_, ?_, rfl⟩
  all_goals rw [synth_primary]

example : (deliveredOf kW (run cfgR AState.init histOk)).map (fun b => (b.primary.crcType, b.primary.crc, b.primary.flags))
    = [(1, some [0, 0], 0)] := by decide +kernel

/-- flag bits, payload block number and the receive-chain orders the model relies on: reassembly
    (10) runs after routing (-1, 0) and before the BPSec steps (19, 20) and the application step (30) -/
theorem C06_facts :
    Facts.enum_blocks_PrimaryBlock_Flag_IS_FRAGMENT = 1 ∧
    Facts.const_bundle_BLOCK_NUM_PAYLOAD = 1 ∧
    Facts.enum_blocks_AbstractBlock_CrcType_NONE = 0 ∧
    stepOrderRx "Administrative routing" = some (-1) ∧
    stepOrderRx "Static routing" = some 0 ∧
    stepOrderRx "Fragment reassembly" = some 10 ∧
    stepOrderRx "BPSec accept confidentiality" = some 19 ∧
    stepOrderRx "BPSec verify integrity" = some 20 ∧
    stepOrderRx "Administrative handling" = some 30 ∧
    (Facts.chainSteps.filter (fun s => s.1 == "rx_chain")).length = 6 := by
  decide

end Props
end DtnVerif
