/-
  C02 — BPv7 bundle encoding round-trips and is RFC 9171 well-formed.

  Model encoder: `Bundle.enc` (Model/Bundle.lean, mirrors scapy_cbor + bp.encoding).
  Model decoder: `decodeBundle` (Model/BundleDec.lean, mirrors `Bundle(bytes)` + the EID
  normalisation of `EidField`). Independent, written from RFC 9171/RFC 8949: `rfcEncode` (CBOR item
  tree) and `rfc9171Shape` (generic CBOR item skipper).
  Well-formedness predicates are explicit Boolean functions: `wf` (what the codec needs:
  integers and lengths < 2^64, CRC type ≤ 2, fragment fields zero unless the fragment flag is
  set, CRC field absent iff CRC type 0, EIDs fixed points of the `urlsplit` normalisation) and
  `rfcWf` (= `wf` + version 7 + no CBOR null + CRC fields of the right width + payload block last
  and unique).
-/
import DtnVerif.Lemmas.BundleRfc
import DtnVerif.Lemmas.Crc
import DtnVerif.Lemmas.BpAsb
import DtnVerif.Generated.Facts
namespace DtnVerif
namespace Props
namespace C02
open Bp Cbor

def ascii (s : String) : Bytes := s.toList.map (fun c => UInt8.ofNat c.toNat)

/-- Values on both sides of every CBOR head boundary (23/24, 255/256, 65535/65536, 2^32-1/2^32,
    2^64-1); 192 is a block type the code does not know. -/
def exA : Bundle :=
  { primary := { version := 7, flags := 0x40001, crcType := 2,
                 dest := .dtn (ascii "//dst/svc"), src := .ipn [4294967296, 23],
                 rpt := .dtnNone, ts := ⟨18446744073709551615, 24⟩, lifetime := 65536,
                 fragOff := 255, totalLen := 256, crc := some [1, 2, 3, 4] },
    blocks := [
      { typeCode := 6, blockNum := 2, btsd := some (encPrevNode (.dtn (ascii "//n1/"))) },
      { typeCode := 7, blockNum := 3, flags := 1, crcType := 1, btsd := some (encBundleAge 65535),
        crc := some [9, 9] },
      { typeCode := 10, blockNum := 4, btsd := some (encHopCount 30 4294967295) },
      { typeCode := 192, blockNum := 24, flags := 0x10, crcType := 1,
        btsd := some (List.replicate 24 0xaa), crc := some [0, 0] },
      { typeCode := 1, blockNum := 1, crcType := 2, btsd := some (List.replicate 256 0x55),
        crc := some [0, 0, 0, 0] } ] }

def exB : Bundle :=
  { primary := { version := 6, flags := 4, crcType := 1, dest := .ipn [1, 2, 3], src := .dtnNone,
                 rpt := .dtn (ascii "~mcast"), crc := none },
    blocks := [ { typeCode := 7, blockNum := 23, btsd := none } ] }

/-- For every `wf` bundle value, decoding the encoded octets yields exactly that value
    (all field values; unbounded block count, BTSD and EID lengths up to the CBOR limit 2^64). -/
theorem C02_roundtrip (b : Bundle) (h : wf b = true) : decodeBundle b.enc = some b :=
  decodeBundle_enc b h

private theorem wf_exA : wf exA = true := by decide +kernel
example : wf exA = true := wf_exA
example : wf exB = true ∧ rfcWf exB = false := by decide +kernel
example : decodeBundle exA.enc = some exA := C02_roundtrip exA wf_exA

/-- Decoding is injective on encodings of well-formed bundles: two `wf` bundles with the same
    octets are the same bundle. -/
theorem C02_enc_injective (a b : Bundle) (ha : wf a = true) (hb : wf b = true)
    (h : a.enc = b.enc) : a = b := by
  have h1 := C02_roundtrip a ha
  have h2 := C02_roundtrip b hb
  rw [h] at h1
  exact Option.some.inj (h1.symm.trans h2)

/-- The round trip also holds in front of arbitrary trailing octets of the block stream: each block
    decoder returns exactly its own octets' worth (prefix-freeness of block encodings). -/
theorem C02_block_prefix (c : Canonical) (r : Bytes) (h : wfCanonical c = true) :
    decCanonical (c.enc ++ r) = some (c, r) := decCanonical_enc c r h

theorem C02_primary_prefix (p : Primary) (r : Bytes) (h : wfPrimary p = true) :
    decPrimaryRaw (p.enc ++ r) = some (p, r) := decPrimaryRaw_enc p r h

/-- The model of the repository's encoder and the encoder written from RFC 9171 produce the same
    octets for every bundle value (no side condition at all). -/
theorem C02_reencode_eq (b : Bundle) : b.enc = rfcEncode b := (rfcEncode_eq b).symm

/-- Octets produced by the independent encoder decode to the bundle, and re-encoding what was decoded
    reproduces those octets. -/
theorem C02_reencode (b : Bundle) (h : wf b = true) :
    ∃ d, decodeBundle (rfcEncode b) = some d ∧ d = b ∧ d.enc = rfcEncode b := by
  refine ⟨b, ?_, rfl, (rfcEncode_eq b).symm⟩
  rw [rfcEncode_eq]; exact C02_roundtrip b h

example : rfcEncode exA = exA.enc := (C02_reencode_eq exA).symm
example : (rfcEncode exA).length = 410 := by decide +kernel

/-- Every `rfcWf` bundle encodes to the RFC 9171 structure as the independent recogniser reads it:
    indefinite array; primary block = definite array of 8–11 items; each further item a definite
    array of 5–6 items; payload block (type 1) last and unique; break; nothing after. -/
theorem C02_shape (b : Bundle) (h : rfcWf b = true) : rfc9171Shape b.enc = true :=
  rfc9171Shape_enc b h

private theorem rfcWf_exA : rfcWf exA = true := by decide +kernel
example : rfcWf exA = true := rfcWf_exA
example : rfc9171Shape exA.enc = true := C02_shape exA rfcWf_exA
example : rfc9171Shape exB.enc = false := by decide +kernel
example : rfc9171Shape (exA.enc.dropLast) = false := by decide +kernel
example : rfc9171Shape ({ exA with blocks := exA.blocks.reverse }).enc = false := by decide +kernel

theorem C02_rfcWf_wf (b : Bundle) (h : rfcWf b = true) : wf b = true := by
  simp only [rfcWf, Bool.and_eq_true] at h
  exact h.1.1.1.1

/-! ### EID normalisation: what is still rewritten, and the round trip over all RFC 9171 EIDs

`normEid e = some e` (the EID part of `wf`) holds for a `dtn` scheme-specific part `s` exactly when
`s ≠ "none"`, there is no TAB/CR/LF before the first `?`/`#`, and — with `p` the part of `s` before
the first `?`/`#` — either `p` does not start with `//`, or it is `//` + non-empty ASCII authority
without `[` `]` + `/` + anything. Still rewritten (none of them RFC 9171 EIDs): `//host` and
`//host?q` get the `/` (`//host/`, `//host/?q`), an empty authority is dropped (`///x` → `/x`),
TAB/CR/LF before the query are removed, the text `none` becomes `dtn:none`. -/

example : normEid (.dtn (ascii "//src?")) = some (.dtn (ascii "//src/?")) := by decide +kernel
example : normEid (.dtn (ascii "//n/a?b#c")) = some (.dtn (ascii "//n/a?b#c")) := by decide +kernel
example : normEid (.dtn (ascii "//host")) = some (.dtn (ascii "//host/")) := by decide +kernel
example : normEid (.dtn (ascii "///x")) = some (.dtn (ascii "/x")) := by decide +kernel
example : normEid (.dtn (ascii "//h/a\tb?c\td")) = some (.dtn (ascii "//h/ab?c\td")) := by decide +kernel
example : normEid (.dtn (ascii "none")) = some .dtnNone := by decide +kernel
example : wfEid (.dtn (ascii "//node/svc?x=1#y")) = true ∧ wfEid (.dtn (ascii "//node")) = false
    ∧ wfEid (.dtn (ascii "~mcast/grp")) = true := by decide +kernel

/-- Every RFC 9171 endpoint ID (`dtn:none`, `dtn://node-name/demux` with `demux = *VCHAR`, including
    `?` and `#`; two-element `ipn`) is a fixed point of the code's normalisation. -/
theorem C02_rfc_eid_fixed (e : Eid) (h : rfcEid e = true) : normEid e = some e :=
  wfEid_norm (rfcEid_wf e h)

theorem C02_wfRfcEids_wf (b : Bundle) (h : wfRfcEids b = true) : wf b = true := by
  simp only [wfRfcEids, Bool.and_eq_true, decide_eq_true_eq, and_assoc] at h
  obtain ⟨hv, hf, hc, hd, hs, hr, ht, hq, hl, hfr, hcrc, hbl⟩ := h
  rw [wf, Bool.and_eq_true]
  exact ⟨wfPrimary_iff.2 ⟨hv, hf, hc, rfcEid_wf _ hd, rfcEid_wf _ hs, rfcEid_wf _ hr, ht, hq, hl, hfr, hcrc⟩,
    hbl⟩

/-- **Round trip at the strength of the property text**: for every bundle whose EIDs are RFC 9171
    well-formed (and whose integers/lengths fit CBOR, CRC type ≤ 2, conditional fields consistent),
    decoding the encoded octets yields exactly the bundle. (Before the D19 fix in the repository
    this statement was false: `dtn://node/svc?x=1` lost its query.) -/
theorem C02_roundtrip_rfc (b : Bundle) (h : wfRfcEids b = true) : decodeBundle b.enc = some b :=
  C02_roundtrip b (C02_wfRfcEids_wf b h)

def exD : Bundle :=
  { primary := { dest := .dtn (ascii "//node/svc?x=1#f"), ts := ⟨1, 1⟩, lifetime := 1000 },
    blocks := [ { typeCode := 1, blockNum := 1, btsd := some (ascii "x") } ] }

example : wfRfcEids exD = true := by decide +kernel
example : decodeBundle exD.enc = some exD := C02_roundtrip_rfc exD (by decide +kernel)
example : wfRfcEids exA = true := by decide +kernel

def manyBlocks (n : Nat) : Bundle :=
  { primary := { dest := .dtn (ascii "//dst/svc"), src := .ipn [1, 2], ts := ⟨1, 1⟩, lifetime := 1000 },
    blocks := (List.range n).map (fun i => { typeCode := 192, blockNum := i + 2, btsd := some [UInt8.ofNat i] })
              ++ [ { typeCode := 1, blockNum := 1, btsd := some (ascii "payload") } ] }

/-- The encoding starts with the indefinite-array octet immediately followed by the primary block's
    own array head (`88`…`8b`), whatever the number of blocks: the octet after `9f` never is an item
    count. -/
theorem C02_frame_no_count (b : Bundle) :
    ∃ t, b.enc = 0x9f :: UInt8.ofNat (4 * 32 + b.primary.count) :: t ∧ 8 ≤ b.primary.count
      ∧ b.primary.count ≤ 11 := by
  have hc := b.primary.count_range
  refine ⟨b.primary.fields ++ encBlocks b.blocks ++ [0xff], ?_, hc.1, hc.2⟩
  have : encArrHead b.primary.count = [UInt8.ofNat (4 * 32 + b.primary.count)] := by
    unfold encArrHead head; simp [show b.primary.count < 24 by omega]
  simp [Bundle.enc, Primary.enc, this]

/-- 24, 25 and 256 top-level items (primary + 23 / 24 / 255 canonical blocks). -/
private theorem wfRfcEids_manyBlocks : wfRfcEids (manyBlocks 22) = true ∧ wfRfcEids (manyBlocks 23) = true
    ∧ wfRfcEids (manyBlocks 254) = true := by decide +kernel
example : wfRfcEids (manyBlocks 22) = true ∧ wfRfcEids (manyBlocks 23) = true
    ∧ wfRfcEids (manyBlocks 254) = true := wfRfcEids_manyBlocks
example : decodeBundle (manyBlocks 22).enc = some (manyBlocks 22) :=
  C02_roundtrip_rfc _ wfRfcEids_manyBlocks.1
example : decodeBundle (manyBlocks 23).enc = some (manyBlocks 23) :=
  C02_roundtrip_rfc _ wfRfcEids_manyBlocks.2.1
example : decodeBundle (manyBlocks 254).enc = some (manyBlocks 254) :=
  C02_roundtrip_rfc _ wfRfcEids_manyBlocks.2.2
example : rfc9171Shape (manyBlocks 23).enc = true := C02_shape _ (by decide +kernel)
example : ((manyBlocks 23).enc.take 2) = [0x9f, 0x88] := by decide +kernel

/-- `wf` says nothing about the *content* of block-type-specific data: replacing the data of every
    block by arbitrary octets keeps a bundle well-formed. -/
theorem C02_wf_any_block_data (b : Bundle) (h : wf b = true) (f : Canonical → Bytes)
    (hf : ∀ c, u64 (f c).length = true) :
    wf { b with blocks := b.blocks.map (fun c => { c with btsd := some (f c) }) } = true := by
  simp only [wf, Bool.and_eq_true] at h ⊢
  refine ⟨h.1, ?_⟩
  rw [List.all_eq_true] at *
  intro c hc
  simp only [List.mem_map] at hc
  obtain ⟨c0, hc0, rfl⟩ := hc
  obtain ⟨h1, h2, h3, h4, _, h6⟩ := wfCanonical_iff.1 (h.2 c0 hc0)
  exact wfCanonical_iff.2 ⟨h1, h2, h3, h4, by simpa [wfOptBytes] using hf c0, h6⟩

/-- Whatever octets the blocks carry — data of a known block type serialised by another encoder
    (longer heads, indefinite-length arrays, EID text this code would normalise), an administrative
    payload that is not a dissectable record, ciphertext — decoding succeeds, returns exactly those
    octets, and re-encoding is byte-identical. The PAYLOAD_ADMIN flag and the block type codes play no
    role. -/
theorem C02_any_block_data (b : Bundle) (h : wf b = true) (f : Canonical → Bytes)
    (hf : ∀ c, u64 (f c).length = true) :
    let b' : Bundle := { b with blocks := b.blocks.map (fun c => { c with btsd := some (f c) }) }
    decodeBundle b'.enc = some b' ∧ (decodeBundle b'.enc).map Bundle.enc = some b'.enc := by
  have hw := C02_wf_any_block_data b h f hf
  have hr := C02_roundtrip _ hw
  exact ⟨hr, by rw [hr]; rfl⟩

/-- Re-encoding a decoded bundle reproduces the octets, for every well-formed bundle. -/
theorem C02_reencode_identical (b : Bundle) (h : wf b = true) :
    (decodeBundle b.enc).map Bundle.enc = some b.enc := by
  rw [C02_roundtrip b h]; rfl

/-- hop count as an indefinite-length array, previous node `dtn://node7` (no trailing `/`), bundle age
    with a two-octet head, and an admin-flagged bundle whose payload is the integer 5 -/
def exForeign : Bundle :=
  { primary := { flags := 2, dest := .dtn (ascii "//dst/svc"), src := .ipn [1, 2], ts := ⟨1, 1⟩, lifetime := 1000 },
    blocks := [ { typeCode := 10, blockNum := 2, btsd := some [0x9f, 0x18, 0x1e, 0x01, 0xff] },
                { typeCode := 6, blockNum := 3,
                  btsd := some ([0x82, 0x01, 0x67] ++ ascii "//node7") },
                { typeCode := 7, blockNum := 4, btsd := some [0x19, 0x00, 0x05] },
                { typeCode := 1, blockNum := 1, btsd := some [0x05] } ] }

private theorem wfRfcEids_exForeign : wfRfcEids exForeign = true := by decide +kernel
example : wfRfcEids exForeign = true := wfRfcEids_exForeign
example : (decodeBundle exForeign.enc).map (fun b => b.blocks.map (·.btsd))
    = some (exForeign.blocks.map (·.btsd)) := by
  rw [C02_roundtrip_rfc exForeign wfRfcEids_exForeign]; rfl
example : (decodeBundle exForeign.enc).map Bundle.enc = some exForeign.enc :=
  C02_reencode_identical _ (C02_wfRfcEids_wf _ wfRfcEids_exForeign)

/-- For a well-formed bundle whose CRCs check, decoding its octets, recomputing every CRC and
    encoding again reproduces the octets (the CRC values already present do not enter the
    computation). -/
theorem C02_reencode_after_crc_update (b : Bundle) (h : wf b = true) (hc : b.checkAllCrc = []) :
    (decodeBundle b.enc).map (fun d => d.updateAllCrc.enc) = some b.enc := by
  rw [C02_roundtrip b h, Option.map_some, Bundle.updateAll_of_check b hc]

/-- … and for any well-formed bundle after the first `update_all_crc()` (no hypothesis on the CRCs). -/
theorem C02_reencode_updated (b : Bundle) (h : wf b.updateAllCrc = true) :
    (decodeBundle b.updateAllCrc.enc).map (fun d => d.updateAllCrc.enc) = some b.updateAllCrc.enc :=
  C02_reencode_after_crc_update _ h (Bundle.check_updateAll b)

/-- A datetime that is `t` milliseconds (plus `r < 1000` microseconds) after the epoch converts to
    exactly `t`, for every `t` — no value is off by one — and converts back to the millisecond. -/
theorem C02_dtntime_exact (t r : Nat) (hr : r < 1000) :
    dtnTimeOfMicros (microsOfDtnTime t + r) = t
    ∧ microsOfDtnTime (dtnTimeOfMicros (microsOfDtnTime t + r)) = microsOfDtnTime t := by
  have h1 : dtnTimeOfMicros (microsOfDtnTime t + r) = t := by
    unfold dtnTimeOfMicros microsOfDtnTime; omega
  exact ⟨h1, by rw [h1]⟩

/-- the values a floating-point conversion gets wrong: 1 s + 1 ms, 2^29 s + 1 ms (2017), 2^30 s + 1 ms
    (2034-01-09) after the epoch -/
example : dtnTimeOfMicros 1001000 = 1001 ∧ dtnTimeOfMicros ((2 ^ 29 * 1000 + 1) * 1000) = 2 ^ 29 * 1000 + 1
    ∧ dtnTimeOfMicros ((2 ^ 30 * 1000 + 1) * 1000 + 999) = 2 ^ 30 * 1000 + 1 := by decide

/-- Round trip of the ASB codec for every well-formed value: any number of targets, parameters
    present iff flag bit 0, and **any** result arrays — including empty ones (a target without
    results decodes to the empty list, not to "no value"). -/
theorem C02_asb_roundtrip (a : Asb) (h : wfAsb a = true) : decAsb a.enc = some a :=
  decAsb_enc a h

/-- … and in front of any following octets (the ASB items are self-delimiting). -/
theorem C02_asb_prefix (a : Asb) (r : Bytes) (h : wfAsb a = true) :
    decAsbPrefix (a.enc ++ r) = some (a, r) := decAsbPrefix_enc a r h

def exAsb : Asb :=
  { targets := [1], contextId := 3, flags := 1, source := .dtn (ascii "//n/"),
    params := [(1, .uint 5), (2, .bstr (ascii "ab"))], results := [[]] }
def exAsb2 : Asb :=
  { targets := [1, 2, 24], contextId := 256, flags := 0, source := .ipn [1, 2],
    results := [[], [(1, .bstr (ascii "xyz"))], []] }

private theorem wfAsb_exAsb : wfAsb exAsb = true ∧ wfAsb exAsb2 = true := by decide +kernel
example : wfAsb exAsb = true ∧ wfAsb exAsb2 = true := wfAsb_exAsb
example : (decAsb exAsb.enc).map (·.results) = some [[]] := by
  rw [C02_asb_roundtrip exAsb wfAsb_exAsb.1]; rfl
example : toHex exAsb.enc = "810103018201642f2f6e2f8282010582024261628180" := by decide +kernel
example : exAsb.enc ≠ ({ exAsb with results := [] } : Asb).enc
    ∧ decAsb ({ exAsb with results := [] } : Asb).enc = some { exAsb with results := [] } := by
  decide +kernel

/-- Field order, field kinds and conditions of the classes the model mirrors, the enum values and
    the block type bindings — regenerated from /repo on every run. -/
theorem C02_facts :
    Facts.layouts.lookup "blocks.PrimaryBlock" = some [
      ("UintField", "bp_version", ""), ("FlagsField", "bundle_flags", ""),
      ("EnumField", "crc_type", ""), ("EidField", "destination", ""), ("EidField", "source", ""),
      ("EidField", "report_to", ""), ("PacketField", "create_ts", "cls=Timestamp"),
      ("UintField", "lifetime", ""),
      ("UintField", "fragment_offset", "if(lambda p: p.getfieldval('bundle_flags') & PrimaryBlock.Flag.IS_FRAGMENT) "),
      ("UintField", "total_app_data_len", "if(lambda p: p.getfieldval('bundle_flags') & PrimaryBlock.Flag.IS_FRAGMENT) "),
      ("BstrField", "crc_value", "if(lambda p: p.getfieldval('crc_type') != 0) ")]
    ∧ Facts.layouts.lookup "blocks.CanonicalBlock" = some [
      ("UintField", "type_code", ""), ("UintField", "block_num", ""),
      ("FlagsField", "block_flags", ""), ("EnumField", "crc_type", ""), ("BstrField", "btsd", ""),
      ("BstrField", "crc_value", "if(lambda p: p.crc_type != 0) ")]
    ∧ Facts.layouts.lookup "blocks.Timestamp" = some [
      ("DtnTimeField", "dtntime", ""), ("UintField", "seqno", "")]
    ∧ Facts.layouts.lookup "bundle.Bundle" = some [
      ("PacketField", "primary", "cls=PrimaryBlock"),
      ("PacketListField", "blocks", "cls=CanonicalBlock")]
    ∧ Facts.layouts.lookup "blocks.PreviousNodeBlock" = some [("EidField", "node", "")]
    ∧ Facts.layouts.lookup "blocks.BundleAgeBlock" = some [("UintField", "age", "")]
    ∧ Facts.layouts.lookup "blocks.HopCountBlock" = some [
      ("UintField", "limit", ""), ("UintField", "count", "")]
    ∧ Facts.layouts.lookup "bpsecenc.AbstractSecurityBlock" = some [
      ("FieldListField", "targets", "ArrayWrapField fld=UintField"), ("UintField", "context_id", ""),
      ("FlagsField", "context_flags", ""), ("EidField", "source", ""),
      ("PacketListField", "parameters", "if(lambda p: p.getfieldval('context_flags') & AbstractSecurityBlock.Flag.PARAMETERS_PRESENT) ArrayWrapField cls=TypeValuePair"),
      ("PacketListField", "results", "ArrayWrapField cls=TargetResultList")]
    ∧ Facts.layouts.lookup "bpsecenc.TargetResultList" = some [
      ("PacketListField", "results", "cls=TypeValuePair")]
    ∧ Facts.layouts.lookup "bpsecenc.TypeValuePair" = some [
      ("UintField", "type_code", ""), ("CborField", "value", "")]
    ∧ (Facts.binds.filter (fun b => b.1 == "CanonicalBlock")).map (fun b => (b.2.1, b.2.2.2)) = [
      ("PreviousNodeBlock", 6), ("BundleAgeBlock", 7), ("HopCountBlock", 10),
      ("BlockIntegrityBlock", 11), ("BlockConfidentialityBlock", 12)]
    ∧ Facts.enum_blocks_AbstractBlock_CrcType_NONE = 0
    ∧ Facts.enum_blocks_AbstractBlock_CrcType_CRC16 = 1
    ∧ Facts.enum_blocks_AbstractBlock_CrcType_CRC32 = 2
    ∧ Facts.enum_blocks_PrimaryBlock_Flag_IS_FRAGMENT = 1
    ∧ Facts.enum_blocks_PrimaryBlock_Flag_PAYLOAD_ADMIN = 2
    -- RFC 9171 §4.2.3 bundle processing control flags
    ∧ Facts.enum_blocks_PrimaryBlock_Flag_NONE = 0
    ∧ Facts.enum_blocks_PrimaryBlock_Flag_NO_FRAGMENT = 0x4
    ∧ Facts.enum_blocks_PrimaryBlock_Flag_USER_APP_ACK = 0x20
    ∧ Facts.enum_blocks_PrimaryBlock_Flag_REQ_STATUS_TIME = 0x40
    ∧ Facts.enum_blocks_PrimaryBlock_Flag_REQ_RECEPTION_REPORT = 0x4000
    ∧ Facts.enum_blocks_PrimaryBlock_Flag_REQ_FORWARDING_REPORT = 0x10000
    ∧ Facts.enum_blocks_PrimaryBlock_Flag_REQ_DELIVERY_REPORT = 0x20000
    ∧ Facts.enum_blocks_PrimaryBlock_Flag_REQ_DELETION_REPORT = 0x40000
    -- RFC 9171 §4.2.4 block processing control flags
    ∧ Facts.enum_blocks_CanonicalBlock_Flag_NONE = 0
    ∧ Facts.enum_blocks_CanonicalBlock_Flag_REPLICATE_IN_FRAGMENT = 0x01
    ∧ Facts.enum_blocks_CanonicalBlock_Flag_STATUS_IF_NO_PROCESS = 0x02
    ∧ Facts.enum_blocks_CanonicalBlock_Flag_DELETE_IF_NO_PROCESS = 0x04
    ∧ Facts.enum_blocks_CanonicalBlock_Flag_REMOVE_IF_NO_PROCESS = 0x10
    -- RFC 9171 §6.1.1 status report reason codes
    ∧ Facts.enum_admin_StatusReport_ReasonCode_NO_INFO = 0
    ∧ Facts.enum_admin_StatusReport_ReasonCode_LIFETIME_EXP = 1
    ∧ Facts.enum_admin_StatusReport_ReasonCode_HOP_LIMIT_EXC = 9
    ∧ Facts.enum_bpsecenc_AbstractSecurityBlock_Flag_PARAMETERS_PRESENT = 1
    ∧ Facts.enum_efields_EidField_TypeCode_dtn = 1
    ∧ Facts.enum_efields_EidField_TypeCode_ipn = 2
    ∧ Facts.enum_efields_EidField_WellKnownSsp_none = 0
    ∧ Facts.const_bundle_BLOCK_TYPE_PAYLOAD = 1
    ∧ Facts.const_bundle_BLOCK_NUM_PAYLOAD = 1 := by
  repeat' apply And.intro
  all_goals decide +kernel

end C02
end Props
end DtnVerif
