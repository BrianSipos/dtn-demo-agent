/-
  C20 — BTP-U messages round-trip and segmented transfers reassemble.
  Theorems about `DtnVerif.Btpu` (Model/Btpu.lean), unbounded in lengths, MTUs, hint lists,
  numbers of segments, arrival orders and interleavings.
-/
import DtnVerif.Model.Btpu
import DtnVerif.Lemmas.BtpuSend
import DtnVerif.Lemmas.BtpuRecv
import DtnVerif.Lemmas.BtpuCodec
import DtnVerif.Generated.Facts
namespace DtnVerif
namespace Btpu

/-- Constants and layouts of the source the model relies on: message type bindings, the field
    layouts of `MessageHead`, `HintHead`, `_Transfer`, `MessageSet`, and the observation points. -/
theorem C20_facts :
    ("MessageHead", "DefinitePadding", "msg_type", (1 : Int)) ∈ Facts.binds ∧
    ("MessageHead", "BundlePdu", "msg_type", (2 : Int)) ∈ Facts.binds ∧
    ("MessageHead", "TransferSeg", "msg_type", (3 : Int)) ∈ Facts.binds ∧
    ("MessageHead", "TransferEnd", "msg_type", (4 : Int)) ∈ Facts.binds ∧
    ("MessageHead", "TransferCancel", "msg_type", (5 : Int)) ∈ Facts.binds ∧
    ("btpu.HintHead", [("BitField", "hint_type", "size=7"), ("BitField", "h_flag", "size=1"),
      ("LenField", "length", "fmt=B")]) ∈ Facts.layouts ∧
    ("btpu.MessageHead", [("ByteField", "msg_type", ""), ("FlagsField", "flags", "size=4"),
      ("BitFieldLenField", "length", "size=20 length_of=hints"),
      ("PacketListField", "hints", "")]) ∈ Facts.layouts ∧
    ("btpu._Transfer", [("IntField", "xfer_num", ""), ("IntField", "seg_idx", "")]) ∈ Facts.layouts ∧
    ("btpu.MessageSet", [("PacketListField", "msgs", "")]) ∈ Facts.layouts ∧
    Facts.const_btpu_RX_XFER_TIMEOUT_MS = 1000 ∧
    ("btpu.Agent.recv_bundle_finished", "signal", "sta{sv}", "") ∈ Facts.dbusSigs ∧
    ("btpu.Agent.recv_bundle_get_queue", "method", "", "as") ∈ Facts.dbusSigs ∧
    ("btpu.Agent.recv_bundle_pop_data", "method", "s", "ay") ∈ Facts.dbusSigs := by
  and_intros <;> decide +kernel

/-- decode ∘ encode = id on every message set whose fields fit their widths and whose declared
    lengths are the actual ones (any hint lists, any payloads, lengths `< 2^20`), followed by
    nothing or by padding. -/
theorem C20_roundtrip (msgs : List Msg) (pad : Bytes) (hpad : pad = [] ∨ ∃ r, pad = 0 :: r)
    (hwf : ∀ m ∈ msgs, m.wf ∧ m.mtype ≠ 0) :
    decodeSet (encSet msgs ++ pad) = some (msgs, pad) := by
  unfold decodeSet
  apply decSet_enc pad hpad msgs _ hwf
  have := length_le_flatten_map encMsg msgs fun m _ =>
    Nat.lt_of_lt_of_le (by decide) (encMsg_length_ge m)
  rw [← encSet_eq_flatten] at this
  simp only [List.length_append]; omega

/-- What the agent builds is such a message: a Bundle PDU of `< 2^20` octets … -/
theorem C20_roundtrip_bundle (data : Bytes) (h : data.length < 2 ^ 20) (hne : data ≠ []) :
    ∃ m, decodeSet (bundleFrame data) = some ([m], []) ∧ m.exact = true ∧
      m.length = data.length ∧ m.body = .bundle data := by
  let m := mkMsg 2 [] data
  have hml : m.length = data.length := by
    simp [m, mkMsg, normFlags, hintsLen, Nat.mod_eq_of_lt h]
  have hex : m.exact = true := by
    simp [m, mkMsg, normFlags, Msg.exact, hintsExact, hintsLen, Nat.mod_eq_of_lt h]
  have hwf : m.wf :=
    ⟨by simp [m, mkMsg], by simp [m, mkMsg], by omega, hex, fun x hx => by
      simp [m, mkMsg, normFlags] at hx⟩
  refine ⟨m, ?_, hex, hml, ?_⟩
  · have := C20_roundtrip [m] [] (Or.inl rfl) fun x hx' => by
      rw [List.mem_singleton.mp hx']; exact ⟨hwf, by simp [m, mkMsg]⟩
    simpa [encSet, bundleFrame, m] using this
  · cases data with
    | nil => exact absurd rfl hne
    | cons a t => simp [m, mkMsg, Msg.body]

/-- … and a Transfer segment with the total-length hint: it decodes to the same transfer number,
    index, end marker and data, with declared length = actual length. -/
theorem C20_roundtrip_seg (total xfer idx : Nat) (isEnd : Bool) (chunk : Bytes)
    (hx : xfer < 2 ^ 32) (hi : idx < 2 ^ 32) (hc : chunk.length + 14 < 2 ^ 20) :
    ∃ m, decodeSet (segFrame total xfer idx isEnd chunk) = some ([m], []) ∧ m.exact = true ∧
      m.length = chunk.length + 14 ∧ m.body = .seg isEnd xfer idx chunk := by
  have hlen : (beBytes 4 xfer ++ (beBytes 4 idx ++ chunk)).length = chunk.length + 8 := by
    simp; omega
  have hmod : (6 + (chunk.length + 8)) % 2 ^ 20 = chunk.length + 14 := by
    rw [Nat.mod_eq_of_lt (by omega)]; omega
  let m := mkMsg (if isEnd then 4 else 3) [(0, beBytes 4 total)]
    (beBytes 4 xfer ++ (beBytes 4 idx ++ chunk))
  have hty : m.mtype = 3 ∨ m.mtype = 4 := by cases isEnd <;> simp [m, mkMsg]
  have hml : m.length = chunk.length + 14 := by
    simp only [m, mkMsg, List.map_cons, List.map_nil, normFlags, hintsLen, beBytes_length, hlen, hmod]
  have hex : m.exact = true := by
    simp only [m, mkMsg, List.map_cons, List.map_nil, normFlags, Msg.exact, hintsExact, hintsLen,
      beBytes_length, hlen, hmod]
    simp; omega
  have hwf : m.wf := by
    refine ⟨by omega, by simp [m, mkMsg], by omega, hex, fun x hx' => ?_⟩
    simp only [m, mkMsg, List.map_cons, List.map_nil, normFlags, List.mem_singleton] at hx'
    subst hx'; simp
  refine ⟨m, ?_, hex, hml, ?_⟩
  · have := C20_roundtrip [m] [] (Or.inl rfl) fun x hx' => by
      rw [List.mem_singleton.mp hx']; exact ⟨hwf, by omega⟩
    simpa [encSet, segFrame, m] using this
  · rw [Msg.body_seg m _ _ chunk rfl (beBytes_length 4 xfer) (beBytes_length 4 idx) hty,
      beNat_beBytes 4 xfer hx, beNat_beBytes 4 idx hi]
    cases isEnd <;> simp [m, mkMsg]

private theorem recvFrame_segFrame (s : Rx) (chan addr : String) (total xfer idx : Nat)
    (isEnd : Bool) (chunk : Bytes) (hx : xfer < 2 ^ 32) (hi : idx < 2 ^ 32)
    (hc : chunk.length + 14 < 2 ^ 20) (hne : chunk ≠ []) :
    (recvFrame s chan addr (segFrame total xfer idx isEnd chunk)).1 =
      step s (.seg ⟨chan, xfer⟩ addr isEnd idx chunk) := by
  obtain ⟨m, hm, _, _, hbody⟩ := C20_roundtrip_seg total xfer idx isEnd chunk hx hi hc
  simp only [recvFrame, hm, recvMsgs, hbody, List.isEmpty_eq_false_iff.mpr hne, Bool.false_eq_true,
    if_false, step]

/-- Decoding any frame and re-encoding it reproduces the frame, whenever every declared length
    in it equals the actual length (`Msg.exact`; no truncation, proper H-flag chain). The padding
    is kept as it is. -/
theorem C20_reencode (f : Bytes) (msgs : List Msg) (rest : Bytes)
    (h : decodeSet f = some (msgs, rest)) (hex : ∀ m ∈ msgs, m.exact = true) :
    encSet msgs ++ rest = f :=
  decSet_exact _ _ _ _ h hex

example : decodeSet [2, 0x80, 0, 9, 1, 2, 0x61, 0x62, 2, 1, 0xee, 0xcc, 0xdd, 0, 0xff] =
    some ([⟨2, 8, 9, [⟨0, true, 2, [0x61, 0x62]⟩, ⟨1, false, 1, [0xee]⟩], [0xcc, 0xdd]⟩], [0, 0xff]) := by
  decide

example : (⟨2, 8, 9, [⟨0, true, 2, [0x61, 0x62]⟩, ⟨1, false, 1, [0xee]⟩], [0xcc, 0xdd]⟩ : Msg).exact = true := by
  decide

example : decodeSet (segFrame 200 7 2 true [1, 2, 3]) =
    some ([mkMsg 4 [(0, [0, 0, 0, 200])] [0, 0, 0, 7, 0, 0, 0, 2, 1, 2, 3]], []) := by decide

/-- `total_len < mtu - 4` (or no MTU) and `total_len < 2^20`: one frame, the Bundle PDU,
    `total_len + 4` octets. -/
theorem C20_single (xfer : Nat) (data : Bytes) (mtu : Nat) (h : data.length + 4 < mtu)
    (hl : data.length < 2 ^ 20) :
    sendTransfer xfer data (some mtu) = .ok [bundleFrame data] ∧
    sendTransfer xfer data none = .ok [bundleFrame data] ∧
    (bundleFrame data).length = data.length + 4 := by
  have hnl : ¬ (2 ^ 20 ≤ data.length) := by omega
  refine ⟨by simp only [sendTransfer, h, if_true, sendPdu, hnl, if_false],
    by simp only [sendTransfer, sendPdu, hnl, if_false], ?_⟩
  rw [bundleFrame_length]; omega

/-- A bundle that would go out as one PDU but has 2^20 octets or more does not fit the 20-bit
    message length: `ValueError`, nothing is sent. -/
theorem C20_too_long_fails (xfer : Nat) (data : Bytes) (mtu : Option Nat)
    (hun : ∀ m, mtu = some m → data.length + 4 < m) (hl : 2 ^ 20 ≤ data.length) :
    sendTransfer xfer data mtu = .failed ∧ framesSent xfer data mtu = [] := by
  have h : sendTransfer xfer data mtu = .failed := by
    cases mtu with
    | none => simp only [sendTransfer, sendPdu, hl, if_true]
    | some m => simp only [sendTransfer, hun m rfl, if_true, sendPdu, hl]
  exact ⟨h, by simp only [framesSent, h]⟩

example : (2 : Nat) ^ 20 ≤ (List.replicate (2 ^ 20) (1 : UInt8)).length := by
  rw [List.length_replicate]; exact Nat.le_refl _

/-- The segmented case with `mtu > 18`: the frames are the TransferSeg … TransferEnd messages of
    consecutive non-empty chunks with indices 0, 1, 2, …, exactly the last being the TransferEnd,
    whose data concatenated by index is the bundle; every frame fits the MTU and the 20-bit
    message length; there are at least two. -/
theorem C20_cover (xfer : Nat) (data : Bytes) (mtu : Nat) (hseg : mtu ≤ data.length + 4)
    (hmtu : 18 < mtu) :
    ∃ ps : List (Nat × Bool × Bytes),
      sendTransfer xfer data (some mtu) =
        .ok (ps.map fun p => segFrame data.length xfer p.1 p.2.1 p.2.2) ∧
      SegsOK 0 ps ∧ (ps.map (·.2.2)).flatten = data ∧
      (∀ p ∈ ps, 0 < p.2.2.length ∧ p.2.2.length + 18 ≤ mtu ∧ p.2.2.length + 14 < 2 ^ 20) ∧
      2 ≤ ps.length := by
  have hr : 0 < (remainSize mtu).toNat := by unfold remainSize headLenSeg; omega
  have hrv : (remainSize mtu).toNat ≤ mtu - 18 ∧ (remainSize mtu).toNat ≤ 2 ^ 20 - 15 := by
    unfold remainSize headLenSeg; omega
  have hnz : ¬ (remainSize mtu ≤ 0) := by unfold remainSize headLenSeg; omega
  obtain ⟨hok, hcat, hall⟩ := segLoop_spec data _ hr (data.length + 1) 0 0 (by omega)
  generalize hps : segLoop (data.length + 1) data (remainSize mtu).toNat 0 0 = ps at hok hcat hall
  have hcat' : (ps.map (·.2.2)).flatten = data := by simpa using hcat
  refine ⟨ps, ?_, hok, hcat', ?_, ?_⟩
  · simp only [sendTransfer, Nat.not_lt.mpr hseg, if_false, hnz, hps]
  · intro p hp
    obtain ⟨h1, h2⟩ := hall p hp
    exact ⟨h1, by omega, by omega⟩
  · match ps, hcat', hall with
    | [], hc, _ => simp at hc; subst hc; simp at hseg; omega
    | [p], hc, ha =>
      simp at hc
      have := (ha p List.mem_cons_self).2
      rw [hc] at this; omega
    | _ :: _ :: _, _, _ => simp

/-- The failure branch: a bundle that is not sent as one PDU with `mtu ≤ 18` is not segmented at
    all: `ValueError` before the first frame, nothing is sent. -/
theorem C20_too_small_fails (xfer : Nat) (data : Bytes) (mtu : Nat) (hseg : mtu ≤ data.length + 4)
    (hmtu : mtu ≤ 18) :
    sendTransfer xfer data (some mtu) = .failed ∧ framesSent xfer data (some mtu) = [] := by
  have hz : remainSize mtu ≤ 0 := by unfold remainSize headLenSeg; omega
  have h : sendTransfer xfer data (some mtu) = .failed := by
    simp only [sendTransfer, Nat.not_lt.mpr hseg, if_false, hz, if_true]
  exact ⟨h, by simp only [framesSent, h]⟩

example : framesSent 0 [0x9f, 1, 2, 3, 4, 5, 6, 7, 8, 9, 10, 11, 12, 13, 0xff] (some 18) = [] := by decide

private theorem sendTransfer_cases (xfer : Nat) (data : Bytes) (mtu : Nat) :
    (data.length + 4 < mtu ∧ 2 ^ 20 ≤ data.length ∧ sendTransfer xfer data (some mtu) = .failed) ∨
    (data.length + 4 < mtu ∧ data.length < 2 ^ 20 ∧
      sendTransfer xfer data (some mtu) = .ok [bundleFrame data]) ∨
    (mtu ≤ data.length + 4 ∧ mtu ≤ 18 ∧ sendTransfer xfer data (some mtu) = .failed) ∨
    (mtu ≤ data.length + 4 ∧ 18 < mtu ∧ ∃ ps : List (Nat × Bool × Bytes),
      sendTransfer xfer data (some mtu) =
        .ok (ps.map fun p => segFrame data.length xfer p.1 p.2.1 p.2.2) ∧
      ∀ p ∈ ps, p.2.2.length + 18 ≤ mtu) := by
  by_cases hseg : data.length + 4 < mtu
  · by_cases hl : 2 ^ 20 ≤ data.length
    · exact Or.inl ⟨hseg, hl,
        (C20_too_long_fails xfer data (some mtu) (fun m hm => Option.some.inj hm ▸ hseg) hl).1⟩
    · exact Or.inr (Or.inl ⟨hseg, by omega, (C20_single xfer data mtu hseg (by omega)).1⟩)
  · have hseg' : mtu ≤ data.length + 4 := by omega
    by_cases hmtu : mtu ≤ 18
    · exact Or.inr (Or.inr (Or.inl ⟨hseg', hmtu, (C20_too_small_fails xfer data mtu hseg' hmtu).1⟩))
    · obtain ⟨ps, hs, _, _, hall, _⟩ := C20_cover xfer data mtu hseg' (by omega)
      exact Or.inr (Or.inr (Or.inr ⟨hseg', by omega, ps, hs, fun p hp => (hall p hp).2.1⟩))

/-- When `_send_transfer` fails, exactly: the bundle would be one PDU of 2^20 octets or more, or
    it needs segmenting and `mtu ≤ 18` (`remain_size ≤ 0`). -/
theorem C20_fails_iff (xfer : Nat) (data : Bytes) (mtu : Nat) :
    sendTransfer xfer data (some mtu) = .failed ↔
      (data.length + 4 < mtu ∧ 2 ^ 20 ≤ data.length) ∨ (mtu ≤ data.length + 4 ∧ mtu ≤ 18) := by
  rcases sendTransfer_cases xfer data mtu with ⟨a, b, h⟩ | ⟨a, b, h⟩ | ⟨a, b, h⟩ | ⟨a, b, ps, h, _⟩
  · exact iff_of_true h (Or.inl ⟨a, b⟩)
  · rw [h]; exact iff_of_false nofun (by omega)
  · exact iff_of_true h (Or.inr ⟨a, b⟩)
  · rw [h]; exact iff_of_false nofun (by omega)

/-- `_send_transfer` either fails (see `C20_fails_iff`) or every frame it yields is within the
    MTU. -/
theorem C20_size (xfer : Nat) (data : Bytes) (mtu : Nat) :
    sendTransfer xfer data (some mtu) = .failed ∨
    ∃ frames, sendTransfer xfer data (some mtu) = .ok frames ∧ ∀ f ∈ frames, f.length ≤ mtu := by
  rcases sendTransfer_cases xfer data mtu with ⟨_, _, h⟩ | ⟨_, _, h⟩ | ⟨_, _, h⟩ | ⟨_, _, ps, h, hall⟩
  · exact Or.inl h
  · refine Or.inr ⟨_, h, fun f hf => ?_⟩
    rw [List.mem_singleton.mp hf, bundleFrame_length]; omega
  · exact Or.inl h
  · refine Or.inr ⟨_, h, fun f hf => ?_⟩
    obtain ⟨p, hp, rfl⟩ := List.mem_map.mp hf
    rw [segFrame_length]; have := hall p hp; omega

example : (match sendTransfer 7 (List.replicate 30 1) (some 30) with
    | .ok fs => fs.map List.length | .failed => []) = [30, 30, 24] := by decide

/-- Each segment of transfer `k` exactly once — indices `0..n-1` with `n ≥ 1` (a transfer of one
    segment, TransferEnd with index 0, included), the last one the TransferEnd —, in any order and interleaved with any segments of other transfers or channels
    and Bundle PDUs: exactly the concatenation by index is queued for `k`, once, and the
    reassembly entry is removed. -/
theorem C20_reasm (cs : List Bytes) (k : Key) (evs : List Ev) (s0 : Rx)
    (h0 : getT k s0.prog = none) (hn : 1 ≤ cs.length)
    (hg : ∀ t ∈ kev k evs, t.2.1 < cs.length ∧ cs[t.2.1]? = some t.2.2 ∧
      (t.1 = true ↔ t.2.1 + 1 = cs.length))
    (hpw : ((kev k evs).map (·.2.1)).Pairwise (· ≠ ·))
    (hcov : ∀ i, i < cs.length → ∃ t ∈ kev k evs, t.2.1 = i) :
    queued k (run s0 evs) = queued k s0 ++ [cs.flatten] ∧ getT k (run s0 evs).prog = none := by
  have hne : kev k evs ≠ [] := by
    obtain ⟨t, ht, _⟩ := hcov 0 (by omega)
    exact List.ne_nil_of_mem ht
  have h := (spec cs hn).fold_reasm (kev k evs) (none, queued k s0) hne (Keyed.Spec.okV_none _ _)
    hg (fun t ht => (hg t ht).1) hpw (fun a ha => by cases ha)
    (fun i hi => by
      obtain ⟨t, ht, hti⟩ := hcov i hi
      exact List.mem_append_left _ (List.mem_map.mpr ⟨t, ht, hti⟩))
  rw [← view_run h0] at h
  exact ⟨congrArg Prod.snd h, congrArg Prod.fst h⟩

private def kA : Key := ⟨"eth0|02-00-00-00-00-02|02-00-00-00-00-01", 7⟩
private def kB : Key := ⟨"eth0|02-00-00-00-00-02|02-00-00-00-00-01", 8⟩
private def evsEx : List Ev :=
  [.seg kA "a" true 2 [5], .seg kB "a" false 0 [9], .bundle "b" [0x9f, 0xff], .seg kA "a" false 0 [1, 2],
   .seg kA "a" false 1 [3, 4]]

example : queued kA (run Rx.init evsEx) = [[1, 2, 3, 4, 5]] :=
  (C20_reasm [[1, 2], [3, 4], [5]] kA evsEx Rx.init rfl (by decide) (by decide) (by decide)
    (by decide)).1

/-- Nothing is queued for `k` while one of its segments (index `m`) is still to come. -/
theorem C20_nothing_while_missing (cs : List Bytes) (k : Key) (pre : List Ev) (s0 : Rx) (m : Nat)
    (h0 : getT k s0.prog = none) (hm : m < cs.length)
    (hg : ∀ t ∈ kev k pre, t.2.1 < cs.length ∧ cs[t.2.1]? = some t.2.2 ∧
      (t.1 = true ↔ t.2.1 + 1 = cs.length))
    (hmiss : ∀ t ∈ kev k pre, t.2.1 ≠ m) :
    queued k (run s0 pre) = queued k s0 := by
  have h := ((spec cs (by omega)).fold_missing (w := m) hm (kev k pre) (none, queued k s0)
    (Keyed.Spec.okV_none _ _) hg hmiss (fun a ha => by cases ha)).1
  rw [← view_run h0] at h
  exact h

example : queued ⟨"c", 5⟩ (run Rx.init [.seg ⟨"c", 5⟩ "a" true 0 [0x9f, 1, 0xff]]) = [[0x9f, 1, 0xff]] :=
  (C20_reasm [[0x9f, 1, 0xff]] ⟨"c", 5⟩ [.seg ⟨"c", 5⟩ "a" true 0 [0x9f, 1, 0xff]] Rx.init rfl
    (by decide) (by decide) (by decide) (by decide)).1

/-- A Bundle PDU frame as the agent builds it is queued as that bundle. -/
theorem C20_pdu_received (data : Bytes) (chan addr : String) (s : Rx) (h : data.length < 2 ^ 20)
    (hne : data ≠ []) :
    recvFrame s chan addr (bundleFrame data) = (addRx s ⟨addr, none, data.length, data⟩, .done) := by
  obtain ⟨m, hm, _, _, hbody⟩ := C20_roundtrip_bundle data h hne
  simp only [recvFrame, hm, recvMsgs, hbody]

/-- A transfer of one segment — a single frame carrying TransferEnd with index 0 — is queued as its
    data at once (`got_end` is 0 then, which the agent tells from unset by `is not None`). -/
theorem C20_one_segment (total xfer : Nat) (chunk : Bytes) (chan addr : String) (s0 : Rx)
    (hx : xfer < 2 ^ 32) (hc : chunk.length + 14 < 2 ^ 20) (hne : chunk ≠ [])
    (h0 : getT ⟨chan, xfer⟩ s0.prog = none) :
    queued ⟨chan, xfer⟩ (recvFrame s0 chan addr (segFrame total xfer 0 true chunk)).1 =
      queued ⟨chan, xfer⟩ s0 ++ [chunk] := by
  rw [recvFrame_segFrame s0 chan addr total xfer 0 true chunk hx (by decide) hc hne]
  show queued _ (run s0 [.seg ⟨chan, xfer⟩ addr true 0 chunk]) = _
  have := (C20_reasm [chunk] ⟨chan, xfer⟩ [.seg ⟨chan, xfer⟩ addr true 0 chunk] s0 h0 (by simp)
    (by intro t ht; simp [kev] at ht; subst ht; simp)
    (by simp [kev])
    (by intro i hi; simp at hi; subst hi; exact ⟨(true, 0, chunk), by simp [kev], rfl⟩)).1
  simpa using this

/-- Every frame the agent builds for a segmented transfer — for every MTU above 18, however
    large — decodes to one message with declared length = actual length and the same transfer
    number, index, end marker and data. -/
theorem C20_built_frames_decode (xfer : Nat) (data : Bytes) (mtu : Nat)
    (hx : xfer < 2 ^ 32) (hlen : data.length < 2 ^ 32) (hmtu : 18 < mtu)
    (hseg : mtu ≤ data.length + 4) :
    ∃ ps : List (Nat × Bool × Bytes),
      sendTransfer xfer data (some mtu) =
        .ok (ps.map fun p => segFrame data.length xfer p.1 p.2.1 p.2.2) ∧
      ∀ p ∈ ps, ∃ m, decodeSet (segFrame data.length xfer p.1 p.2.1 p.2.2) = some ([m], []) ∧
        m.exact = true ∧ m.body = .seg p.2.1 xfer p.1 p.2.2 := by
  obtain ⟨ps, hs, hok, hcat, hall, _⟩ := C20_cover xfer data mtu hseg hmtu
  refine ⟨ps, hs, fun p hp => ?_⟩
  have hnle : ps.length ≤ data.length := by
    have := length_le_flatten_map (·.2.2) ps (fun p hp => (hall p hp).1)
    rwa [hcat] at this
  obtain ⟨m, hm, hex, _, hbody⟩ := C20_roundtrip_seg data.length xfer p.1 p.2.1 p.2.2 hx
    (by have := (segsOK_mem hok hp).1; omega) (hall p hp).2.2
  exact ⟨m, hm, hex, hbody⟩

private theorem reasm_segs (ps : List (Nat × Bool × Bytes)) (k : Key) (evs : List Ev) (s0 : Rx)
    (h0 : getT k s0.prog = none) (hok : SegsOK 0 ps) (hn : 1 ≤ ps.length)
    (hperm : (kev k evs).Perm (ps.map fun p => (p.2.1, p.1, p.2.2))) :
    queued k (run s0 evs) = queued k s0 ++ [(ps.map (·.2.2)).flatten] := by
  have hmem := fun t => (hperm.mem_iff (a := t)).trans List.mem_map
  have hcs : (ps.map (·.2.2)).length = ps.length := List.length_map _
  refine (C20_reasm (ps.map (·.2.2)) k evs s0 h0 (by rw [hcs]; exact hn) ?_ ?_ ?_).1
  · intro t ht
    obtain ⟨p, hp, rfl⟩ := (hmem t).mp ht
    obtain ⟨a, b, c⟩ := segsOK_mem hok hp
    exact ⟨by rw [hcs]; exact a, by simp only [List.getElem?_map, b, Option.map_some],
      by rw [hcs]; exact c⟩
  · refine ((hperm.map _).pairwise_iff (fun h => h.symm)).mpr ?_
    rw [List.map_map, List.pairwise_map, List.pairwise_iff_getElem]
    intro i j hi hj hij
    show ps[i].1 ≠ ps[j].1
    rw [(segsOK_getElem ps 0 hok i hi).1, (segsOK_getElem ps 0 hok j hj).1]; omega
  · rw [hcs]
    intro i hi
    exact ⟨_, (hmem _).mpr ⟨ps[i], List.getElem_mem hi, rfl⟩,
      ((segsOK_getElem ps 0 hok i hi).1).trans (Nat.zero_add i)⟩

/-- The frames `_send_transfer` produces for a bundle that needs segmenting (`mtu > 18`), each
    delivered as one frame, in any order, to a receiver that has no entry for that transfer, queue
    exactly one copy of the bundle. -/
theorem C20_end_to_end (xfer : Nat) (data : Bytes) (mtu : Nat) (chan addr : String) (s0 : Rx)
    (hx : xfer < 2 ^ 32) (hlen : data.length < 2 ^ 32) (hmtu : 18 < mtu)
    (hseg : mtu ≤ data.length + 4) (h0 : getT ⟨chan, xfer⟩ s0.prog = none) :
    ∃ ps : List (Nat × Bool × Bytes),
      sendTransfer xfer data (some mtu) =
        .ok (ps.map fun p => segFrame data.length xfer p.1 p.2.1 p.2.2) ∧
      ∀ ps' : List (Nat × Bool × Bytes), ps'.Perm ps →
        queued ⟨chan, xfer⟩ ((ps'.map fun p => segFrame data.length xfer p.1 p.2.1 p.2.2).foldl
            (fun s f => (recvFrame s chan addr f).1) s0) =
          queued ⟨chan, xfer⟩ s0 ++ [data] := by
  obtain ⟨ps, hs, hok, hcat, hall, hn⟩ := C20_cover xfer data mtu hseg hmtu
  refine ⟨ps, hs, ?_⟩
  intro ps' hperm
  have hnle : ps.length ≤ data.length := by
    have := length_le_flatten_map (·.2.2) ps (fun p hp => (hall p hp).1)
    rwa [hcat] at this
  have hrun : (ps'.map fun p => segFrame data.length xfer p.1 p.2.1 p.2.2).foldl
        (fun s f => (recvFrame s chan addr f).1) s0 =
      run s0 (ps'.map fun p => Ev.seg ⟨chan, xfer⟩ addr p.2.1 p.1 p.2.2) := by
    refine Keyed.foldl_map_congr _ _ _ _ ps' s0 fun p hp s => ?_
    have hpm := hperm.mem_iff.mp hp
    have := (segsOK_mem hok hpm).1
    exact recvFrame_segFrame s chan addr data.length xfer p.1 p.2.1 p.2.2 hx (by omega)
      (hall p hpm).2.2 (List.ne_nil_of_length_pos (hall p hpm).1)
  rw [hrun, ← hcat]
  refine reasm_segs ps ⟨chan, xfer⟩ _ s0 h0 hok (by omega) ?_
  rw [kev_eq, Keyed.filterMap_map_some _ (fun p => (p.2.1, p.1, p.2.2)) _ (fun p => if_pos rfl)]
  exact hperm.map _

end Btpu
end DtnVerif
