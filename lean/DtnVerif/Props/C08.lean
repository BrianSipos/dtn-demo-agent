/-
  C08 — Block CRCs are always valid on output and always checked on input.

  `Crc.crc16x25` / `Crc.crc32c` are bit-at-a-time reflected CRCs over `BitVec` (Model/Crc.lean),
  independent of the table-driven crcmod used by the repository and pinned to the CRC catalogue
  check values below. `updateCrc / checkCrc / updateAllCrc / checkAllCrc / recvGate` mirror
  `AbstractBlock.update_crc / check_crc`, `Bundle.update_all_crc / check_all_crc` and the first
  statement of `Agent.recv_bundle`.
-/
import DtnVerif.Lemmas.Crc
import DtnVerif.Lemmas.BundleDec
import DtnVerif.Lemmas.CrcBurst
import DtnVerif.Generated.Facts
namespace DtnVerif
namespace Props
namespace C08
open Bp Crc

def ascii (s : String) : Bytes := s.toList.map (fun c => UInt8.ofNat c.toNat)

/-- CRC-16/X.25 (a.k.a. CRC-16/IBM-SDLC) check value of "123456789" is 0x906E. -/
theorem C08_check_crc16 : crc16x25 (ascii "123456789") = 0x906E := by decide +kernel

/-- CRC-32C (Castagnoli, CRC-32/ISCSI) check value of "123456789" is 0xE3069283. -/
theorem C08_check_crc32c : crc32c (ascii "123456789") = 0xE3069283 := by decide +kernel

/-- residues of the empty message and of a single zero octet (further pinning: init and xorout) -/
theorem C08_check_small : crc16x25 [] = 0 ∧ crc32c [] = 0 ∧ crc16x25 [0] = 0xF078
    ∧ crc32c [0] = 0x527D5351 := by decide +kernel

/-- `check_crc()` holds after `update_crc()` for every primary and every canonical block value
    (any CRC type, any previous CRC value, any field contents). -/
theorem C08_check_update (p : Primary) (c : Canonical) :
    p.updateCrc.checkCrc = true ∧ c.updateCrc.checkCrc = true :=
  ⟨Primary.check_update p, Canonical.check_update c⟩

/-- … hence `check_all_crc()` is empty after `update_all_crc()` for every bundle. -/
theorem C08_check_update_all (b : Bundle) : b.updateAllCrc.checkAllCrc = [] :=
  Bundle.check_updateAll b

/-- Every canonical block of `updateAllCrc b`: with CRC type 1 it carries the 2-octet big-endian
    bitwise CRC-16/X.25, with CRC type 2 the 4-octet big-endian bitwise CRC-32C, in both cases of
    the block encoded with a zeroed CRC field of that width; with CRC type 0 it carries no CRC
    field (5-item array). Nothing else of the block changes. -/
theorem C08_output (b : Bundle) : ∀ c ∈ b.updateAllCrc.blocks,
    (c.crcType = 1 → c.crc = some (beBytes 2 (crc16x25 c.zeroed.enc)) ∧ c.count = 6
        ∧ c.zeroed.crc = some [0, 0])
    ∧ (c.crcType = 2 → c.crc = some (beBytes 4 (crc32c c.zeroed.enc)) ∧ c.count = 6
        ∧ c.zeroed.crc = some [0, 0, 0, 0])
    ∧ (c.crcType = 0 → c.crc = none ∧ c.count = 5
        ∧ c.enc = Cbor.encArrHead 5 ++ (Cbor.encUint c.typeCode ++ Cbor.encUint c.blockNum
            ++ Cbor.encUint c.flags ++ Cbor.encUint 0 ++ encOptBstr c.btsd)) := by
  intro c hc
  obtain ⟨c0, _, rfl⟩ := List.mem_map.1 hc
  rw [Canonical.updateCrc_eq]
  refine ⟨?_, ?_, ?_⟩
  all_goals
    intro (h : c0.crcType = _)
    simp [h, Canonical.crcValue, Canonical.zeroed, crcOf, Canonical.count, zeroCrc, crcWidth,
      Canonical.enc, Canonical.fields]

/-- The same for the primary block (8 or 10 items without CRC, 9 or 11 with). -/
theorem C08_output_primary (b : Bundle) :
    let p := b.updateAllCrc.primary
    (p.crcType = 1 → p.crc = some (beBytes 2 (crc16x25 p.zeroed.enc)) ∧ p.zeroed.crc = some [0, 0])
    ∧ (p.crcType = 2 → p.crc = some (beBytes 4 (crc32c p.zeroed.enc))
        ∧ p.zeroed.crc = some [0, 0, 0, 0])
    ∧ (p.crcType = 0 → p.crc = none ∧ p.count = 8 + (if isFragment p.flags then 2 else 0)) := by
  simp only [Bundle.updateAllCrc, Primary.updateCrc_eq]
  refine ⟨?_, ?_, ?_⟩
  all_goals
    intro (h : b.primary.crcType = _)
    simp [h, Primary.crcValue, Primary.zeroed, crcOf, Primary.count, zeroCrc, crcWidth]

/-- `update_all_crc` changes nothing but the CRC values. -/
theorem C08_update_only_crc (b : Bundle) :
    b.updateAllCrc.primary.zeroed = b.primary.zeroed
    ∧ b.updateAllCrc.blocks.map Canonical.zeroed = b.blocks.map Canonical.zeroed := by
  refine ⟨Primary.updateCrc_zeroed _, ?_⟩
  rw [Bundle.updateAllCrc, List.map_map]
  exact List.map_congr_left fun c _ => Canonical.updateCrc_zeroed c

def exC : Bundle :=
  { primary := { flags := 0x40, crcType := 2, dest := .dtn (ascii "//dst/svc"),
                 src := .dtn (ascii "//src/"), rpt := .dtn (ascii "//src/"), ts := ⟨1000, 5⟩,
                 lifetime := 3600000 },
    blocks := [ { typeCode := 7, blockNum := 2, crcType := 1, btsd := some (encBundleAge 70000) },
                { typeCode := 1, blockNum := 1, btsd := some (ascii "hello") } ] }

example : (exC.updateAllCrc.blocks.map (·.crc)) = [some [0xac, 0x72], none] := by decide +kernel
example : exC.updateAllCrc.checkAllCrc = [] := C08_check_update_all exC
example : exC.checkAllCrc = [0, 2] := by decide +kernel

/-- `send_bundle` ends with `update_all_crc()` for every bundle it transmits — locally sourced,
    relayed, or a fragment whose primary block was rewritten (IS_FRAGMENT, offset, total length) and
    still holds the all-zero placeholder or the CRC of the unfragmented primary block (`stale`).
    The transmitted primary block carries the CRC of *its own* zeroed encoding, independent of
    `stale`, and every block passes its check. -/
theorem C08_send_any_primary (p : Primary) (bs : List Canonical) (stale : Option Bytes) :
    let out := ({ primary := { p with crc := stale }, blocks := bs } : Bundle).updateAllCrc
    out.checkAllCrc = []
    ∧ out.primary.crc = (if p.crcType == 0 then none else some p.crcValue)
    ∧ out.primary.zeroed = p.zeroed := by
  refine ⟨C08_check_update_all _, ?_, Primary.updateCrc_zeroed _⟩
  simp only [Bundle.updateAllCrc, Primary.updateCrc_eq, Primary.crcValue_setCrc]

def exFragSrc : Primary := ({ crcType := 1, ts := ⟨1, 1⟩, lifetime := 9 } : Primary).updateCrc
def exFrag : Primary := { exFragSrc with flags := 1, fragOff := 0, totalLen := 40 }
example : exFragSrc.checkCrc = true ∧ exFrag.checkCrc = false ∧ exFrag.updateCrc.checkCrc = true
    ∧ exFrag.updateCrc.crc ≠ exFragSrc.crc := by decide +kernel

/-- The CRCs are computed when everything else is done: whatever the TX-chain steps do to the
    bundle (encrypt a payload, add or alter blocks, touch the primary block — any functions
    `Bundle → Bundle`, in any number), the bundle encoded afterwards passes every check. -/
theorem C08_send_after_steps (steps : List (Bundle → Bundle)) (b : Bundle) :
    ((steps.foldl (fun acc f => f acc) b).updateAllCrc).checkAllCrc = [] :=
  C08_check_update_all _

def exStepSrc : Bundle :=
  { primary := { crcType := 0, ts := ⟨1, 1⟩, lifetime := 9 },
    blocks := [ { typeCode := 1, blockNum := 1, crcType := 1, btsd := some (ascii "attack") } ] }
def exEncrypt (b : Bundle) : Bundle :=
  { b with blocks := b.blocks.map fun c =>
      { c with btsd := c.btsd.map (fun d => d.map (fun x => x ^^^ 0x5a)) } }
example : (exEncrypt exStepSrc.updateAllCrc).checkAllCrc = [1]
    ∧ ((exEncrypt exStepSrc).updateAllCrc).checkAllCrc = [] := by decide +kernel

/-- `update_crc()` on a block that already has a CRC value (a decoded block, or a second
    `update_all_crc()`): the value present is overwritten by zeros before the computation, so the
    result is the same as for the block without it. -/
theorem C08_update_ignores_old_value (c : Canonical) (p : Primary) (v : Option Bytes) :
    ({ c with crc := v } : Canonical).updateCrc = c.updateCrc
    ∧ ({ p with crc := v } : Primary).updateCrc = p.updateCrc := by
  constructor
  · simp only [Canonical.updateCrc, Canonical.crcValue_setCrc]
  · simp only [Primary.updateCrc, Primary.crcValue_setCrc]

theorem C08_update_idempotent (b : Bundle) : b.updateAllCrc.updateAllCrc = b.updateAllCrc :=
  Bundle.updateAll_of_check _ (Bundle.check_updateAll b)

/-- A bundle whose CRCs all check (e.g. one just decoded from valid octets) is left unchanged by
    `update_all_crc()`: the agent's `fill_fields(); update_all_crc(); bytes()` reproduces its octets. -/
theorem C08_update_of_valid (b : Bundle) (h : b.checkAllCrc = []) : b.updateAllCrc = b :=
  Bundle.updateAll_of_check b h

/-- `update_crc(keep_existing=True)`: a block without a value gets the right one (and passes its
    check), a block that has a value keeps exactly that value, CRC type 0 ends without a value. -/
theorem C08_update_keep (c : Canonical) :
    (c.crc = none → c.updateCrcKeep.checkCrc = true)
    ∧ (∀ v, c.crcType ≠ 0 → c.crc = some v → c.updateCrcKeep = c)
    ∧ (c.crcType = 0 → c.updateCrcKeep.crc = none ∧ c.updateCrcKeep.checkCrc = true) := by
  refine ⟨?_, ?_, ?_⟩
  · intro h
    have : c.updateCrcKeep = c.updateCrc := by
      unfold Canonical.updateCrcKeep Canonical.updateCrc
      split
      · rfl
      · simp [h]
    rw [this]; exact Canonical.check_update c
  · intro v h0 hv
    have : (c.crcType == 0) = false := by simpa using h0
    simp [Canonical.updateCrcKeep, this, hv]
  · intro h0
    simp [Canonical.updateCrcKeep, Canonical.checkCrc, h0]

/-- A canonical block whose array head announces a number of items different from what its CRC type
    dictates (5, or 6 with a CRC) does not decode — in particular a block whose CRC type octet was
    corrupted to 0 while the CRC value is still there (head says 6, type 0 allows 5), and a head
    `86 → 87` that swallows the following block. -/
theorem C08_surplus_items_rejected (c : Canonical) (n : Nat) (r : Bytes) (h : wfCanonical c = true)
    (hn : n < 2 ^ 64) (hne : n ≠ c.count) :
    decCanonical (Cbor.encArrHead n ++ c.fields ++ r) = none := by
  rw [decCanonical_fields c n r h hn]
  simp [hne]

/-- CRC type octet flipped to 0 in a CRC-16 payload block: 6 items, type 0 -/
example : decCanonical [0x86, 0x01, 0x01, 0x00, 0x00, 0x41, 0x61, 0x42, 0x12, 0x34] = none := by
  decide +kernel

/-- In a byte-string slot (block data, CRC value) the text string with octets `d` decodes to "no
    value", the byte string with the same octets to `d`: flipping the major type of the head
    (`40+n` ↔ `60+n`) changes the decoded field, even when `d` is valid UTF-8. -/
theorem C08_text_not_bytes (d r : Bytes) (h : d.length < 2 ^ 64) :
    decOptBstr (Cbor.encTstr d ++ r) = some (none, r)
    ∧ decOptBstr (Cbor.encBstr d ++ r) = some (some d, r) := by
  constructor
  · have hh := Cbor.decHead_head 3 d.length (d ++ r) (by omega) h
    have hlt : ¬ (d.length + r.length < d.length) := by omega
    simp [decOptBstr, Cbor.decBstr, Cbor.decUint, Cbor.decTstr, Cbor.encTstr, List.append_assoc, hh, hlt]
  · simp [decOptBstr, Cbor.decBstr_enc d r h]

def exTextBlk : Canonical :=
  ({ typeCode := 1, blockNum := 1, crcType := 1, btsd := some (ascii "hello world") } : Canonical).updateCrc
example : exTextBlk.checkCrc = true ∧ exTextBlk.enc[5]? = some 0x4b
    ∧ (decCanonical (exTextBlk.enc.set 5 0x6b)).map (fun x => (x.1.btsd, x.1.checkCrc))
      = some (none, false) := by decide +kernel

private theorem malformed_ne {t : Nat} {o : Option Bytes} {z : Bytes}
    (h : o = none ∨ ∃ d, o = some d ∧ d.length ≠ crcWidth t) : o ≠ some (crcOf t z) := by
  rintro rfl
  rcases h with h | ⟨d, hd, hl⟩
  · cases h
  · cases hd; exact hl (crcOf_length t z)

/-- For a block with CRC type 1 or 2, a missing CRC value (CBOR null, or — as `BstrField.m2i`
    yields `None` for it — a text string) or a value of the wrong length never passes `check_crc`;
    for CRC type 0 any value present fails. Canonical and primary blocks. -/
theorem C08_crc_field_malformed (t : Nat) (ht : t = 1 ∨ t = 2) :
    (∀ c : Canonical, c.crcType = t →
      (c.crc = none ∨ ∃ d, c.crc = some d ∧ d.length ≠ crcWidth t) → c.checkCrc = false)
    ∧ (∀ p : Primary, p.crcType = t →
      (p.crc = none ∨ ∃ d, p.crc = some d ∧ d.length ≠ crcWidth t) → p.checkCrc = false) := by
  constructor
  · rintro c rfl h
    exact Bool.eq_false_iff.2 fun hk => malformed_ne h ((Canonical.checkCrc_iff (by omega)).1 hk)
  · rintro p rfl h
    exact Bool.eq_false_iff.2 fun hk => malformed_ne h ((Primary.checkCrc_iff (by omega)).1 hk)

/-- `62 xx xx` (text string) resp. `f6` (null) in the CRC slot of a CRC-16 block. -/
example : (decCanonical [0x86, 0x01, 0x01, 0x00, 0x01, 0x41, 0x61, 0x62, 0x31, 0x32]).map
    (fun x => (x.1.crc, x.1.checkCrc)) = some (none, false) := by decide +kernel
example : (decCanonical [0x86, 0x01, 0x01, 0x00, 0x01, 0x41, 0x61, 0xf6]).map
    (fun x => (x.1.crc, x.1.checkCrc)) = some (none, false) := by decide +kernel

/-- A bundle with any failing block leaves the agent state (seen set, queues, … — every component
    of `σ`) unchanged and produces no effect, whatever the rest of the receive path is. -/
theorem C08_gate {σ ε : Type} (rest : σ → Bundle → σ × List ε) (s : σ) (b : Bundle)
    (h : b.checkAllCrc ≠ []) : recvGate rest s b = (s, []) := by
  unfold recvGate
  cases hb : b.checkAllCrc with
  | nil => exact absurd hb h
  | cons x xs => simp

/-- … and the gate stops exactly those bundles: with all CRCs valid the rest of the path runs. -/
theorem C08_gate_pass {σ ε : Type} (rest : σ → Bundle → σ × List ε) (s : σ) (b : Bundle)
    (h : b.checkAllCrc = []) : recvGate rest s b = rest s b := by
  simp [recvGate, h]

/-- `check_all_crc` is empty exactly when every block passes its own check. -/
theorem C08_check_all (b : Bundle) :
    b.checkAllCrc = [] ↔ b.primary.checkCrc = true ∧ ∀ c ∈ b.blocks, c.checkCrc = true :=
  checkAllCrc_nil_iff b

/-- Type 0 is valid iff there is no CRC value. -/
theorem C08_type0 (c : Canonical) (h : c.crcType = 0) : c.checkCrc = c.crc.isNone := by
  simp [Canonical.checkCrc, h]

example : recvGate (recvSeen .dtnNone) [] exC = ([], []) := C08_gate _ _ _ (by decide +kernel)
example : recvGate (recvSeen .dtnNone) [] exC.updateAllCrc
    = ([exC.ident], [.accepted exC.ident]) := by decide +kernel

/-- … hence the gate drops every bundle that has such a block. -/
theorem C08_gate_malformed_crc {σ ε : Type} (rest : σ → Bundle → σ × List ε) (s : σ) (b : Bundle)
    (c : Canonical) (hc : c ∈ b.blocks) (ht : c.crcType = 1 ∨ c.crcType = 2)
    (h : c.crc = none ∨ ∃ d, c.crc = some d ∧ d.length ≠ crcWidth c.crcType) :
    recvGate rest s b = (s, []) := by
  apply C08_gate
  intro hnil
  have := ((checkAllCrc_nil_iff b).1 hnil).2 c hc
  rw [(C08_crc_field_malformed c.crcType ht).1 c rfl h] at this
  exact absurd this (by decide)

/-- One CRC step is linear over GF(2) in (register, input bit). -/
theorem C08_step_linear {w : Nat} (p a b : BitVec w) (x y : Bool) :
    crcStep p (a ^^^ b) (x != y) = crcStep p a x ^^^ crcStep p b y := crcStep_xor p a b x y

/-- The zero-input step is injective (and fixes 0) when the reflected polynomial has its top bit
    set, i.e. the generator polynomial has a non-zero constant term. -/
theorem C08_step0_inj {w : Nat} (p c d : BitVec w) (hp : p.msb = true)
    (h : crcStep p c false = crcStep p d false) : c = d := step0_inj p c d hp h

/-- Burst detection for the bit-level CRC register, message of any length, any initial register:
    an error pattern confined to a window of at most `w` bits and not all zero changes the result. -/
theorem C08_crc_burst {w : Nat} (p init xorout : BitVec w) (hp : p.msb = true) (z z' : Bytes)
    (pre post : Nat) (burst : List Bool)
    (hm : (bitsOf z).length = pre + burst.length + post)
    (hz : bitsOf z' = xorBits (bitsOf z) (burstPattern pre burst post))
    (hlen : burst.length ≤ w) (hne : burst.any id = true) :
    crc p init xorout z' ≠ crc p init xorout z :=
  crc_burst p init xorout hp z z' pre post burst hm hz hlen hne

/-- both BPv7 polynomials satisfy the hypothesis -/
example : (0x8408#16).msb = true ∧ (0x82F63B78#32).msb = true := by decide
example : bitsOf (ascii "123456788")
    = xorBits (bitsOf (ascii "123456789")) (burstPattern 64 [true] 7) := by decide +kernel

/-- **Burst detection at block level (partial).** Let `c` be a block whose CRC checks (type 1 or 2)
    and `c'` the block a receiver decoded from corrupted octets, with the same CRC type and the same
    CRC value octets. If the encodings-with-zeroed-CRC-field of `c'` and `c` (what `check_crc`
    feeds to the CRC) differ by a non-zero error pattern confined to a window of at most 16 resp. 32
    bits, then `check_crc` fails on `c'`. Same for the primary block.

    Missing for the full property (`C08_burst_statement` below, which is false, see the counterexample):
    the hypothesis is about the *re-encoding* `c'.zeroed.enc` of the decoded fields, because that is what
    the code checks. It coincides with the received octets only when those are the canonical
    encoding of what they decode to (D20: `bytes(int)` in byte-string slots, the remaining `urlsplit`
    normalisations of non-RFC EIDs; outside the model also the
    lenient dissector: ignored surplus array items, CRC type flipped to 0, `true == 1`; the uint in a
    bstr slot is modelled and is the witness of `C08_burst_counterexample`).
    Bursts that straddle the boundary between the covered fields and the CRC value are not covered
    either (the CRC value is stored big-endian while the CRC is reflected, so the block is not a
    polynomial code word); corruption confined to the CRC value is `C08_crcfield`. -/
theorem C08_burst_partial (t : Nat) (ht : t = 1 ∨ t = 2) (pre post : Nat) (burst : List Bool)
    (hlen : burst.length ≤ 16 * t) (hne : burst.any id = true) :
    (∀ c c' : Canonical, c.crcType = t → c'.crcType = t → c.checkCrc = true → c'.crc = c.crc →
      (bitsOf c.zeroed.enc).length = pre + burst.length + post →
      bitsOf c'.zeroed.enc = xorBits (bitsOf c.zeroed.enc) (burstPattern pre burst post) →
      c'.checkCrc = false)
    ∧ (∀ p p' : Primary, p.crcType = t → p'.crcType = t → p.checkCrc = true → p'.crc = p.crc →
      (bitsOf p.zeroed.enc).length = pre + burst.length + post →
      bitsOf p'.zeroed.enc = xorBits (bitsOf p.zeroed.enc) (burstPattern pre burst post) →
      p'.checkCrc = false) := by
  constructor
  · intro c c' h1 h2 hchk hcrc hm hz
    refine Bool.eq_false_iff.2 fun hk => ?_
    have e := (Canonical.checkCrc_iff (by omega)).1 hk
    rw [hcrc, (Canonical.checkCrc_iff (by omega)).1 hchk, Option.some.injEq, Canonical.crcValue,
      Canonical.crcValue, h1, h2] at e
    exact crcOf_burst t ht _ _ pre post burst hm hz hlen hne e.symm
  · intro p p' h1 h2 hchk hcrc hm hz
    refine Bool.eq_false_iff.2 fun hk => ?_
    have e := (Primary.checkCrc_iff (by omega)).1 hk
    rw [hcrc, (Primary.checkCrc_iff (by omega)).1 hchk, Option.some.injEq, Primary.crcValue,
      Primary.crcValue, h1, h2] at e
    exact crcOf_burst t ht _ _ pre post burst hm hz hlen hne e.symm

/-- Corruption confined to the CRC value itself is always detected. -/
theorem C08_crcfield (c c' : Canonical) (ht : c.crcType ≠ 0) (hchk : c.checkCrc = true)
    (hz : c'.zeroed = c.zeroed) (hcrc : c'.crc ≠ c.crc) : c'.checkCrc = false := by
  have ht' : c'.zeroed.crcType = c.zeroed.crcType := congrArg Canonical.crcType hz
  simp only [Canonical.zeroed_crcType] at ht'
  refine Bool.eq_false_iff.2 fun hk => hcrc ?_
  rw [(Canonical.checkCrc_iff (ht' ▸ ht)).1 hk, (Canonical.checkCrc_iff ht).1 hchk,
    Canonical.crcValue, Canonical.crcValue, hz, ht']

def oneBitInside : Bytes → Bytes → Nat → Bool
  | x :: xs, y :: ys, i =>
    if x == y then oneBitInside xs ys (i + 1)
    else i != 0 && !xs.isEmpty && xs == ys
         && [1, 2, 4, 8, 16, 32, 64, 128].contains (x ^^^ y).toNat
  | _, _, _ => false

/-- The full-strength input half of C08 for single-bit corruption, as a proposition: every bundle all
    of whose blocks are CRC-protected and valid, corrupted in one bit anywhere between the outer
    array framing octets, is — if it still decodes — rejected by the gate. -/
def C08_burst_statement : Prop :=
  ∀ (b b' : Bundle) (r : Bytes), b.checkAllCrc = [] → b.primary.crcType ≠ 0 →
    (∀ c ∈ b.blocks, c.crcType ≠ 0) → oneBitInside b.enc r 0 = true →
    decodeBundle r = some b' → b'.checkAllCrc ≠ []

/-- D20 witness: an extension block (type 192, CRC-16) with empty block-type-specific data.
    Flipping one bit of its `40` (empty bstr) gives `00` (unsigned 0); `BstrField.m2i` turns that
    into `bytes(0) = b''`, the decoded bundle is the original one, every CRC check — run over the
    re-encoding — passes. -/
def d20Orig : Bundle :=
  { primary := { flags := 0x64000, crcType := 2, dest := .dtn (ascii "//node/svc"),
                 src := .dtn (ascii "//src/"), rpt := .dtn (ascii "//src/"), ts := ⟨1000, 5⟩,
                 lifetime := 300000, crc := some [0xb1, 0x44, 0x3e, 0x22] },
    blocks := [ { typeCode := 192, blockNum := 2, crcType := 1, btsd := some [],
                  crc := some [0x9e, 0x97] },
                { typeCode := 1, blockNum := 1, crcType := 1, btsd := some (ascii "hello"),
                  crc := some [0x4b, 0xf3] } ] }

/-- octet 61 (`40`, the empty BTSD of block 2) with bit 6 flipped -/
def d20Corrupted : Bytes := d20Orig.enc.set 61 0x00

/- The kernel evaluates the bitwise CRC of the witness's primary block in 16-octet pieces (the fold
   over all of it exceeds its recursion depth); the pieces are chained with `crcReg_append`. -/
private theorem d20_prim_0 : crcReg (0x82F63B78#32) (0xFFFFFFFF#32)
    [137, 7, 26, 0, 6, 64, 0, 2, 130, 1, 106, 47, 47, 110, 111, 100] = 0x926C60B9#32 := by decide +kernel
private theorem d20_prim_1 : crcReg (0x82F63B78#32) (0x926C60B9#32)
    [101, 47, 115, 118, 99, 130, 1, 102, 47, 47, 115, 114, 99, 47, 130, 1] = 0x47266B1F#32 := by decide +kernel
private theorem d20_prim_2 : crcReg (0x82F63B78#32) (0x47266B1F#32)
    [102, 47, 47, 115, 114, 99, 47, 130, 25, 3, 232, 5, 26, 0, 4, 147] = 0x6A54BEC2#32 := by decide +kernel
private theorem d20_prim_3 : crcReg (0x82F63B78#32) (0x6A54BEC2#32) [224, 68, 0, 0, 0, 0] = 0x4EBBC1DD#32 := by
  decide +kernel

private theorem d20_prim_enc : d20Orig.primary.zeroed.enc =
    [137, 7, 26, 0, 6, 64, 0, 2, 130, 1, 106, 47, 47, 110, 111, 100]
    ++ ([101, 47, 115, 118, 99, 130, 1, 102, 47, 47, 115, 114, 99, 47, 130, 1]
    ++ ([102, 47, 47, 115, 114, 99, 47, 130, 25, 3, 232, 5, 26, 0, 4, 147] ++ [224, 68, 0, 0, 0, 0])) := by
  decide +kernel

theorem C08_d20_checks : d20Orig.checkAllCrc = [] := by
  rw [checkAllCrc_nil_iff]
  constructor
  · have ht : d20Orig.primary.crcType = 2 := rfl
    have hc : d20Orig.primary.crc = some [0xb1, 0x44, 0x3e, 0x22] := rfl
    simp only [Primary.checkCrc, ht, hc, Primary.crcValue, crcOf, crc32c, crc, d20_prim_enc,
      crcReg_append, d20_prim_0, d20_prim_1, d20_prim_2, d20_prim_3]
    decide
  · decide +kernel

theorem C08_burst_counterexample : ¬ C08_burst_statement := by
  intro h
  have := h d20Orig d20Orig d20Corrupted C08_d20_checks (by decide +kernel) (by decide +kernel)
    (by decide +kernel) (by decide +kernel)
  exact this C08_d20_checks

/-- the witness octets (replayed on the implementation by harness/props/c08.py `check_d20`) -/
example : toHex d20Orig.enc =
    "9f89071a000640000282016a2f2f6e6f64652f7376638201662f2f7372632f8201662f2f7372632f821903e8051a000493e044b1443e228618c002000140429e9786010100014568656c6c6f424bf3ff" := by
  decide +kernel
example : d20Orig.enc[61]? = some 0x40 ∧ d20Corrupted[61]? = some 0x00 := by decide +kernel

/-- A one-bit flip `/`→`?` at the end of `dtn://src/` is detected: the decoded bundle re-encodes
    with `//src/?`, so the CRC-32C check of the primary block fails. -/
example : (decodeBundle (({ d20Orig with primary := { d20Orig.primary with rpt := .dtn (ascii "//src?") } }
    : Bundle).enc)).map (fun b => b.primary.rpt) = some (.dtn (ascii "//src/?")) := by decide +kernel

theorem C08_facts :
    Facts.crcDefs = [("CRC16", "x-25", ">H"), ("CRC32", "crc-32c", ">L")]
    ∧ Facts.enum_blocks_AbstractBlock_CrcType_NONE = 0
    ∧ Facts.enum_blocks_AbstractBlock_CrcType_CRC16 = 1
    ∧ Facts.enum_blocks_AbstractBlock_CrcType_CRC32 = 2
    ∧ crcWidth 1 = 2 ∧ crcWidth 2 = 4 ∧ crcWidth 0 = 0 := by
  repeat' apply And.intro
  all_goals decide +kernel

end C08
end Props
end DtnVerif
