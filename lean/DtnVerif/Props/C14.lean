/-
  C14 — TCPCL negotiates parameters correctly and keeps its timers.
  Virtual time: `Ep.now` in milliseconds, advanced by `Ev.advance`; a timer source is pending iff its
  deadline field is `some`. The float arithmetic of the segment-size controller is not modelled:
  `Ev.modulate raw` stands for *any* integer it may produce, at any moment.
-/
import DtnVerif.Lemmas.TcpclSys
import DtnVerif.Lemmas.TcpclSysLift
import DtnVerif.Lemmas.TcpclKaSys
import DtnVerif.Generated.Facts
namespace DtnVerif
namespace Tcpcl

theorem C14_facts :
    Facts.const_tcpcl_self__send_segment_size_min = (segSizeMin : Int)
    ∧ Facts.const_tcpcfg_keepalive_time = 0 ∧ Facts.const_tcpcfg_idle_time = 0
    ∧ Facts.enum_tcpcl_SessionTerm_Reason_IDLE_TIMEOUT = 1 := by decide

private theorem setState_fields (e : Ep) (st : String) :
    (setState e st).1.kaTime = e.kaTime ∧ (setState e st).1.idleTime = e.idleTime
    ∧ (setState e st).1.sendSegSize = e.sendSegSize ∧ (setState e st).1.peerInit = e.peerInit
    ∧ (setState e st).1.inSess = e.inSess ∧ (setState e st).1.kaDeadline = e.kaDeadline := by
  unfold setState; split <;> exact ⟨rfl, rfl, rfl, rfl, rfl, rfl⟩

private theorem onSessInit_fields (e : Ep) (p : PeerInit) :
    (onSessInit e p).1.kaTime = min e.cfg.keepalive p.keepalive
    ∧ (onSessInit e p).1.idleTime = e.cfg.idle
    ∧ (onSessInit e p).1.sendSegSize = min e.cfg.segInit p.segMru
    ∧ (onSessInit e p).1.peerInit = some p
    ∧ (onSessInit e p).1.inSess = true
    ∧ (onSessInit e p).1.kaDeadline =
      if 0 < min e.cfg.keepalive p.keepalive then some (e.now + min e.cfg.keepalive p.keepalive * 1000) else none := by
  unfold onSessInit
  simp only []
  obtain ⟨a, b, c, d, f, g⟩ := setState_fields (mergeSession
    { (if e.cfg.passive then sendInit e else e) with peerInit := some p, inSess := true } p) "established"
  rw [a, b, c, d, f, g]
  cases e.cfg.passive <;> simp [mergeSession, kaReset, idleReset, sendInit, sendMessage, sendReady]

/-- **Negotiation.** Processing the peer's SESS_INIT sets the keepalive to the smaller of the two
    announced values, the idle time to the configured one, the segment size to min(initial, peer MRU),
    and records the peer's node ID and MRUs exactly as announced. -/
theorem C14_negotiation (e : Ep) (p : PeerInit) :
    (onSessInit e p).1.kaTime = min e.cfg.keepalive p.keepalive
    ∧ (onSessInit e p).1.idleTime = e.cfg.idle
    ∧ (onSessInit e p).1.sendSegSize = min e.cfg.segInit p.segMru
    ∧ (onSessInit e p).1.peerInit = some p
    ∧ (onSessInit e p).1.inSess = true := by
  obtain ⟨a, b, c, d, f, _⟩ := onSessInit_fields e p
  exact ⟨a, b, c, d, f⟩

/-- keepalive 0 on either side disables the keepalive timer; otherwise it is armed one interval ahead -/
theorem C14_keepalive_armed (e : Ep) (p : PeerInit) :
    (onSessInit e p).1.kaDeadline =
      if 0 < min e.cfg.keepalive p.keepalive then some (e.now + min e.cfg.keepalive p.keepalive * 1000) else none :=
  (onSessInit_fields e p).2.2.2.2.2

/-- every message sent re-arms the keepalive timer one interval after *now* and the idle timer one idle
    time after *now* (so a KEEPALIVE is due exactly when the interval elapses with nothing else sent) -/
theorem C14_rearm_on_send (e : Ep) (m : Msg) :
    (sendMessage e m).kaDeadline = (if e.kaTime > 0 then some (e.now + e.kaTime * 1000) else none)
    ∧ (sendMessage e m).idleDeadline = (if e.idleTime > 0 then some (e.now + e.idleTime * 1000) else none) :=
  ⟨rfl, rfl⟩

/-- any received octets re-arm the idle timer -/
theorem C14_rearm_on_receive (e : Ep) (c : Bytes) :
    (rxEntry e c).idleDeadline = (if e.idleTime > 0 then some (e.now + e.idleTime * 1000) else none) := rfl

/-- the keepalive timer firing emits exactly one KEEPALIVE (and thereby re-arms itself) -/
theorem C14_keepalive_fires (e : Ep) (d : Nat) (hc : e.closed = false) (hd : e.kaDeadline = some d) :
    (step e .keepaliveTimer).1.emitted = e.emitted ++ [.keepalive]
    ∧ (step e .keepaliveTimer).1.kaDeadline = (if e.kaTime > 0 then some (e.now + e.kaTime * 1000) else none) := by
  rw [step_keepaliveTimer e d hc hd]
  exact ⟨by simp only [sendMessage, sendReady, kaReset, idleReset], (C14_rearm_on_send _ .keepalive).1⟩

/-- the idle timer firing while established and not terminating starts termination with reason
    idle-timeout (1), not marked as reply -/
theorem C14_idle_terminates (e : Ep) (d : Nat) (hc : e.closed = false) (hd : e.idleDeadline = some d)
    (hs : e.inSess = true) (ht : e.inTerm = false) :
    (step e .idleTimer).1.emitted = e.emitted ++ [.sessTerm 0 1] ∧ (step e .idleTimer).1.inTerm = true := by
  have h := sendSessTerm_sent { e with idleDeadline := none } 1 false hs ht
  rw [step_idleTimer e d hc hd, if_neg (ne_true_of_eq_false ht)]
  exact ⟨h.1, h.2.2.1⟩

/-- … and an endpoint that is already terminating and hears nothing further ends by closing -/
theorem C14_idle_closes_when_terminating (e : Ep) (d : Nat) (hc : e.closed = false)
    (hd : e.idleDeadline = some d) (ht : e.inTerm = true) :
    (step e .idleTimer).1.closed = true := by
  rw [step_idleTimer e d hc hd, if_pos ht]
  exact closed_doClose _

/-- a pending keepalive (idle) source implies a positive negotiated keepalive (idle) time -/
theorem C14_timer_pending (cfg : Cfg) (evs : List Ev) :
    ((runEp { cfg := cfg } evs).kaDeadline.isSome = true → 0 < (runEp { cfg := cfg } evs).kaTime)
    ∧ ((runEp { cfg := cfg } evs).idleDeadline.isSome = true → 0 < (runEp { cfg := cfg } evs).idleTime) :=
  timerInv_run evs _ (timerInv_init cfg)

/-- **The clamp.** Whatever integer the controller produces, the new segment size never exceeds the
    peer's segment MRU, and is at least the floor whenever the MRU allows it. -/
theorem C14_clamp (raw : Int) (mru : Nat) :
    clampSeg raw mru ≤ mru ∧ (segSizeMin ≤ mru → segSizeMin ≤ clampSeg raw mru) := by
  unfold clampSeg segSizeMin
  refine ⟨Nat.min_le_right _ _, ?_⟩
  intro h
  have : (10240 : Int) ≤ max raw 10240 := Int.le_max_right _ _
  have h2 : 10240 ≤ (max raw 10240).toNat := by omega
  omega

/-- **No segment larger than the peer's segment MRU, even while adapting.** For every schedule with
    arbitrary controller outputs interleaved (assume–guarantee form against any legal peer): every
    segment emitted so far, and the current segment size, are within the MRU the peer announced. -/
theorem C14_seg_le_mru (cfg : Cfg) (evs : List Ev) (h1 : 0 < cfg.segInit) (h2 : cfg.privExt = false)
    (hsend : ∀ d, Ev.send d ∈ evs → d.length < 2 ^ 64)
    (hleg : Legal (runEp (started cfg) evs).processed)
    (hok : ∀ m ∈ (runEp (started cfg) evs).processed, okMsg m) :
    ∀ p, (runEp (started cfg) evs).peerInit = some p →
      (runEp (started cfg) evs).sendSegSize ≤ p.segMru
      ∧ ∀ m ∈ (runEp (started cfg) evs).emitted, segLen m ≤ p.segMru := by
  obtain ⟨P, hP⟩ := txInv_started_run cfg evs h1 h2 hsend hleg hok
  intro p hp
  have := hP.mru.1 p hp
  exact ⟨this.2.1, this.2.2⟩

/-- the same in the two-endpoint system, for every schedule -/
theorem C14_seg_le_mru_sys (cfgA cfgB : Cfg) (sch : List SysEv)
    (a1 : 0 < cfgA.segInit) (a2 : cfgA.privExt = false) (a3 : 0 < cfgA.segMru)
    (b1 : 0 < cfgB.segInit) (b2 : cfgB.privExt = false) (b3 : 0 < cfgB.segMru)
    (hwf : ∀ pre, pre <+: sch → SysWF (runSys (initSys cfgA cfgB) pre))
    (hs : ∀ ev ∈ sch, ev.sendOK) :
    let s := runSys (initSys cfgA cfgB) sch
    (∀ p, s.a.peerInit = some p → ∀ m ∈ s.a.emitted, segLen m ≤ p.segMru)
    ∧ (∀ p, s.b.peerInit = some p → ∀ m ∈ s.b.emitted, segLen m ≤ p.segMru) := by
  have hi := (reach cfgA cfgB sch a1 a2 a3 b1 b2 b3 hwf hs).1
  exact ⟨hi.ia.seg_le_mru, hi.ib.seg_le_mru⟩

/-- **Both sides use the same, smaller keepalive interval, and what is on record about the peer is
    what the peer is configured with.** In every reachable state of the two-endpoint system — any
    schedule, chunking, user calls, timers — once an endpoint has the peer's SESS_INIT on record: the
    recorded keepalive, segment MRU, transfer MRU and node ID are the peer's configured values, the
    keepalive interval in use is `min` of the two configured intervals (zero if either is zero), and the
    idle time in use is the endpoint's own configured one. Hence both sides agree on the interval. -/
theorem C14_negotiation_sys (cfgA cfgB : Cfg) (sch : List SysEv)
    (a1 : 0 < cfgA.segInit) (a2 : cfgA.privExt = false) (a3 : 0 < cfgA.segMru)
    (b1 : 0 < cfgB.segInit) (b2 : cfgB.privExt = false) (b3 : 0 < cfgB.segMru)
    (hwf : ∀ pre, pre <+: sch → SysWF (runSys (initSys cfgA cfgB) pre))
    (hs : ∀ ev ∈ sch, ev.sendOK) :
    let s := runSys (initSys cfgA cfgB) sch
    (∀ p, s.a.peerInit = some p →
        p.keepalive = cfgB.keepalive ∧ p.segMru = cfgB.segMru ∧ p.xferMru = sizeMax ∧ p.node = cfgB.nodeId
        ∧ s.a.kaTime = min cfgA.keepalive cfgB.keepalive ∧ s.a.idleTime = cfgA.idle)
    ∧ (∀ p, s.b.peerInit = some p →
        p.keepalive = cfgA.keepalive ∧ p.segMru = cfgA.segMru ∧ p.xferMru = sizeMax ∧ p.node = cfgA.nodeId
        ∧ s.b.kaTime = min cfgB.keepalive cfgA.keepalive ∧ s.b.idleTime = cfgB.idle) := by
  intro s
  obtain ⟨hi, -, pB, pA⟩ := reach cfgA cfgB sch a1 a2 a3 b1 b2 b3 hwf hs
  obtain ⟨na, nb⟩ := sys_lift_init NG ng_step ng_init cfgA cfgB sch
  obtain ⟨ca, cb⟩ : s.a.cfg = cfgA ∧ s.b.cfg = cfgB := cfg_reach cfgA cfgB sch
  constructor
  · intro p hp
    have := peerInit_is_cfg s.a s.b na hi.ib pA p hp
    rwa [ca, cb] at this
  · intro p hp
    have := peerInit_is_cfg s.b s.a nb hi.ia pB p hp
    rwa [ca, cb] at this

/-- non-vacuity of the clamp: floor above the MRU, huge and negative controller outputs -/
example : clampSeg (-5) 7 = 7 ∧ clampSeg 100000000 20000 = 20000 ∧ clampSeg 15000 20000 = 15000
    ∧ clampSeg 3 20000 = 10240 := by decide

end Tcpcl
end DtnVerif
