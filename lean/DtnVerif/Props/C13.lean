/-
  C13 — UDPCL transfers arrive intact and no datagram exceeds the MTU.
  Theorems about `DtnVerif.Udpcl` (Model/Udpcl.lean), all unbounded in lengths, MTUs, numbers of
  segments, arrival orders and interleavings.
-/
import DtnVerif.Model.Udpcl
import DtnVerif.Lemmas.UdpclSend
import DtnVerif.Lemmas.UdpclRecv
import DtnVerif.Lemmas.UdpclDgram
import DtnVerif.Lemmas.UdpclQueue
import DtnVerif.Generated.Facts
namespace DtnVerif
namespace Udpcl
open Cbor

/-- Constants of the source the model relies on: extension keys (2 = TRANSFER is handled, 3..8 are
    outside the model), and the D-Bus shapes of the observation points. -/
theorem C13_facts :
    Facts.enum_udpcl_ExtensionKey_TRANSFER = 2 ∧
    Facts.enum_udpcl_ExtensionKey_SENDER_LISTEN = 3 ∧
    Facts.enum_udpcl_ExtensionKey_SENDER_NODEID = 4 ∧
    Facts.enum_udpcl_ExtensionKey_STARTTLS = 5 ∧
    Facts.enum_udpcl_ExtensionKey_PEER_PROBE = 6 ∧
    Facts.enum_udpcl_ExtensionKey_PEER_CONFIRM = 7 ∧
    Facts.enum_udpcl_ExtensionKey_ECN_COUNTS = 8 ∧
    ("udpcl.Agent.recv_bundle_finished", "signal", "sta{sv}", "") ∈ Facts.dbusSigs ∧
    ("udpcl.Agent.recv_bundle_get_queue", "method", "", "as") ∈ Facts.dbusSigs ∧
    ("udpcl.Agent.recv_bundle_pop_data", "method", "s", "ay") ∈ Facts.dbusSigs := by
  decide +kernel

/-- `len(data) < mtu` (or no MTU configured): exactly one datagram, the bundle itself. -/
theorem C13_single (id : Nat) (data : Bytes) (mtu : Nat) (h : data.length < mtu) :
    sendTransfer id data (some mtu) = .ok [data] ∧ sendTransfer id data none = .ok [data] := by
  simp [sendTransfer, h]

example : sendTransfer 7 [0x9f, 1, 2, 0xff] (some 5) = .ok [[0x9f, 1, 2, 0xff]] := by decide

/-- The segmented case: whenever `remain_size > 0` the datagrams are the TRANSFER maps of
    consecutive, non-empty parts `(offset, chunk)` that start at 0 and concatenate to the bundle:
    together they carry every octet exactly once. -/
theorem C13_cover (id : Nat) (data : Bytes) (mtu : Nat) (hseg : mtu ≤ data.length)
    (hrem : 0 < remainSize mtu id data.length) :
    ∃ ps : List (Nat × Bytes),
      sendTransfer id data (some mtu) =
        .ok (ps.map fun p => encTransfer id data.length p.1 p.2) ∧
      Contig 0 ps ∧ (ps.map (·.2)).flatten = data ∧
      (∀ p ∈ ps, 0 < p.2.length ∧ (p.2.length : Int) ≤ remainSize mtu id data.length) ∧
      (∀ p ∈ ps, p.1 + p.2.length ≤ data.length ∧ p.2 = (data.drop p.1).take p.2.length) := by
  have hr : 0 < (remainSize mtu id data.length).toNat := by omega
  obtain ⟨hc, hcat, hall⟩ := splitLoop_spec data _ hr (data.length + 1) 0 (by omega)
  refine ⟨_, ?_, hc, by simpa using hcat, ?_, ?_⟩
  · have : ¬ (remainSize mtu id data.length ≤ 0) := by omega
    simp only [sendTransfer, Nat.not_lt.mpr hseg, if_false, this]
  · intro p hp
    obtain ⟨h1, h2⟩ := hall p hp
    exact ⟨h1, by omega⟩
  · exact contig_slices data _ 0 (Nat.zero_le _) hc (by simpa using hcat)

/-- The failure branch: a bundle that does not fit one datagram with an MTU that leaves no room
    for fragment data (`remain_size ≤ 0`) is not segmented at all — no datagram is handed on and
    `send_bundle_finished(id, total_length, 'failed')` is signalled. -/
theorem C13_too_small_fails (id : Nat) (data : Bytes) (mtu : Nat) (hseg : mtu ≤ data.length)
    (hrem : remainSize mtu id data.length ≤ 0) :
    sendTransfer id data (some mtu) = .failed ∧
    processTx id data (some mtu) = ([], some (id, data.length, "failed")) := by
  have h : sendTransfer id data (some mtu) = .failed := by
    simp only [sendTransfer, Nat.not_lt.mpr hseg, if_false, hrem, if_true]
  exact ⟨h, by simp only [processTx, h]⟩

example : processTx 0 [0x9f, 1, 2, 3, 4, 5, 0xff] (some 7) = ([], some (0, 7, "failed")) := by decide

/-- `_send_transfer` either fails — exactly when the bundle does not fit one datagram and
    `remain_size ≤ 0` — or every datagram it returns is within the MTU (for all lengths, MTUs and
    ids, across every CBOR head-size boundary: the bound is arithmetic over `headLen`). -/
theorem C13_size (id : Nat) (data : Bytes) (mtu : Nat) :
    (sendTransfer id data (some mtu) = .failed ∧ mtu ≤ data.length ∧
        remainSize mtu id data.length ≤ 0) ∨
    ∃ segs, sendTransfer id data (some mtu) = .ok segs ∧ ∀ d ∈ segs, d.length ≤ mtu := by
  by_cases hseg : mtu ≤ data.length
  · by_cases hrem : 0 < remainSize mtu id data.length
    · right
      obtain ⟨ps, hs, _, _, hall, hsl⟩ := C13_cover id data mtu hseg hrem
      refine ⟨_, hs, ?_⟩
      intro d hd
      obtain ⟨p, hp, rfl⟩ := List.mem_map.mp hd
      have := hsl p hp
      exact encTransfer_le_mtu mtu id data.length p.1 p.2 (by omega) (by omega) (hall p hp).2
    · have hle : remainSize mtu id data.length ≤ 0 := by omega
      exact Or.inl ⟨(C13_too_small_fails id data mtu hseg hle).1, hseg, hle⟩
  · have h : data.length < mtu := Nat.lt_of_not_le hseg
    exact Or.inr ⟨[data], (C13_single id data mtu h).1, fun d hd => by
      rw [List.mem_singleton.mp hd]; exact Nat.le_of_lt h⟩

/-- The bound is uniform in the transfer id: a series of transfers from one agent — same MTU, any
    ids (growing across 24, 256, 65536, 2^32), any lengths — never contains a datagram above the MTU.
    The sizing depends on nothing but `(mtu, id, len)`; there is no state carried between transfers. -/
theorem C13_size_any_ids (mtu : Nat) (transfers : List (Nat × Bytes)) :
    ∀ t ∈ transfers, sendTransfer t.1 t.2 (some mtu) = .failed ∨
      ∃ segs, sendTransfer t.1 t.2 (some mtu) = .ok segs ∧ ∀ d ∈ segs, d.length ≤ mtu := by
  intro t _
  rcases C13_size t.1 t.2 mtu with ⟨h, _, _⟩ | h
  · exact Or.inl h
  · exact Or.inr h

/-- Why the room for data must be computed per transfer: it shrinks when the id's CBOR head grows
    (a size computed for a smaller id is too large for a bigger one). -/
theorem C13_remain_antitone (mtu total : Nat) {id id' : Nat} (h : id ≤ id') :
    remainSize mtu id' total ≤ remainSize mtu id total := by
  rw [remainSize_eq, remainSize_eq]
  unfold overhead
  have := headLen_mono h
  omega

example : remainSize 400 24 1000 < remainSize 400 23 1000 := by decide

example : 0 < remainSize 30 5 300 := by decide
example : (0 : Int) < remainSize 1280 (2 ^ 32) 70000 := by decide

/-- Conversely nothing fails needlessly: with room for at least one data octet, or a bundle that
    fits, datagrams are produced and no failure is signalled. -/
theorem C13_fails_only_when_too_small (id : Nat) (data : Bytes) (mtu : Nat)
    (h : data.length < mtu ∨ 0 < remainSize mtu id data.length) :
    ∃ ds, processTx id data (some mtu) = (ds, none) ∧ (data ≠ [] → ds ≠ []) := by
  by_cases hseg : mtu ≤ data.length
  · obtain ⟨ps, hs, _, hcat, _, _⟩ := C13_cover id data mtu hseg (by omega)
    refine ⟨ps.map fun p => encTransfer id data.length p.1 p.2, by simp only [processTx, hs],
      fun hne hnil => hne ?_⟩
    rw [← hcat, List.map_eq_nil_iff.mp hnil]; rfl
  · have hs := (C13_single id data mtu (Nat.lt_of_not_le hseg)).1
    exact ⟨[data], by simp only [processTx, hs], fun _ => List.cons_ne_nil _ _⟩

private theorem finCount_dgrams (i : Nat) (ds : List Bytes) : finCount i (ds.map .dgram) = 0 := by
  induction ds with
  | nil => rfl
  | cons d ds ih => rw [List.map_cons, finCount_cons, ih]

private theorem finCount_item (i : Nat) (mtu : Option Nat) (t : Nat × Bytes) :
    finCount i (txItem mtu t) = if t.1 = i then 1 else 0 := by
  unfold txItem
  cases sendTransfer t.1 t.2 mtu with
  | failed => simp only [finCount_cons, Nat.zero_add]; rfl
  | ok ds => simp only [finCount_cons, finCount_append, finCount_dgrams, Nat.zero_add]; rfl

/-- Every queued transfer is finished exactly once, whatever the MTU: the number of
    `send_bundle_finished` signals with id `i` is the number of times `i` was queued (one, for the
    ids `_add_tx_item` hands out) — be it `'success'` or `'failed'`. -/
theorem C13_tx_finished_exactly_once (mtu : Option Nat) (q : List (Nat × Bytes)) (i : Nat) :
    finCount i (txRun mtu q) = (q.map (·.1)).count i := by
  induction q with
  | nil => rfl
  | cons t q ih =>
    simp only [txRun, List.flatMap_cons, List.map_cons] at ih ⊢
    rw [finCount_append, finCount_item, List.count_cons]
    rw [ih]
    by_cases h : t.1 = i <;> simp [h] <;> omega

/-- A transfer that cannot be sent does not disturb the queue: what the others get is what they
    would get without it, and the failed one contributes `started` and `finished 'failed'` only. -/
theorem C13_tx_failure_isolated (mtu : Nat) (a b : List (Nat × Bytes)) (t : Nat × Bytes)
    (hseg : mtu ≤ t.2.length) (hrem : remainSize mtu t.1 t.2.length ≤ 0) :
    txRun (some mtu) (a ++ t :: b) =
      txRun (some mtu) a ++ [.started t.1 t.2.length, .finished t.1 t.2.length "failed"] ++
        txRun (some mtu) b := by
  have h := (C13_too_small_fails t.1 t.2 mtu hseg hrem).1
  simp only [txRun, List.flatMap_append, List.flatMap_cons, txItem, h, List.append_assoc,
    List.cons_append, List.nil_append]

/-- The result says what happened: `'failed'` exactly for a bundle that does not fit one datagram
    with `remain_size ≤ 0`, otherwise the datagrams of `_send_transfer` followed by `'success'`. -/
theorem C13_tx_result (mtu : Nat) (t : Nat × Bytes) :
    (txItem (some mtu) t = [.started t.1 t.2.length, .finished t.1 t.2.length "failed"] ∧
      mtu ≤ t.2.length ∧ remainSize mtu t.1 t.2.length ≤ 0) ∨
    ∃ ds, sendTransfer t.1 t.2 (some mtu) = .ok ds ∧ (∀ d ∈ ds, d.length ≤ mtu) ∧
      txItem (some mtu) t =
        .started t.1 t.2.length :: (ds.map .dgram ++ [.finished t.1 t.2.length "success"]) := by
  rcases C13_size t.1 t.2 mtu with ⟨h, h1, h2⟩ | ⟨ds, h, hb⟩
  · exact Or.inl ⟨by simp only [txItem, h], h1, h2⟩
  · exact Or.inr ⟨ds, h, hb, by simp only [txItem, h]⟩

example : txRun (some 10) [(0, List.replicate 100 7), (1, [1, 2, 3, 4, 5])] =
    [.started 0 100, .finished 0 100 "failed",
     .started 1 5, .dgram [1, 2, 3, 4, 5], .finished 1 5 "success"] := by decide

/-- Repeated segments never yield a corrupted or partial bundle: whatever genuine segments of
    transfer `k` arrive (any number of copies, any order, anything else in between), every queue
    entry that `k` produces is exactly the bundle. -/
theorem C13_dup_safe (data : Bytes) (k : Key) (evs : List Ev) (s0 : Rx)
    (h0 : getX k s0.frags = none)
    (hg : ∀ t ∈ kev k evs, t.1 = data.length ∧ t.2.1 + t.2.2.length ≤ data.length ∧
      t.2.2 = (data.drop t.2.1).take t.2.2.length) :
    ∃ n, queued k (run s0 evs) = queued k s0 ++ List.replicate n (item k data) := by
  obtain ⟨n, hn⟩ := (spec k data).fold_dup (kev k evs) _ (Keyed.Spec.okV_none _ (queued k s0)) hg
  rw [← view_run h0] at hn
  exact ⟨n, hn⟩

private theorem disj_of_arith {a b : Nat × Nat × Bytes}
    (h : a.2.1 + a.2.2.length ≤ b.2.1 ∨ b.2.1 + b.2.2.length ≤ a.2.1) : DisjR (rng a) (rng b) := by
  intro i hi
  obtain ⟨h1, h2⟩ := hi
  rw [inRange_iff] at h1 h2
  simp only [rng] at h1 h2
  omega

/-- Each segment of transfer `k` exactly once (non-empty, pairwise non-overlapping slices of the
    bundle that cover it), in any order and interleaved with any messages of other transfers,
    other peers or whole bundles: exactly one copy of the bundle is queued for `k` and its
    reassembly entry is removed. -/
theorem C13_reasm (data : Bytes) (k : Key) (evs : List Ev) (s0 : Rx)
    (h0 : getX k s0.frags = none)
    (hg : ∀ t ∈ kev k evs, t.1 = data.length ∧ t.2.1 + t.2.2.length ≤ data.length ∧
      t.2.2 = (data.drop t.2.1).take t.2.2.length)
    (hpos : ∀ t ∈ kev k evs, 0 < t.2.2.length)
    (hpw : (kev k evs).Pairwise
      (fun a b => a.2.1 + a.2.2.length ≤ b.2.1 ∨ b.2.1 + b.2.2.length ≤ a.2.1))
    (hcov : ∀ i, i < data.length → ∃ t ∈ kev k evs, t.2.1 ≤ i ∧ i < t.2.1 + t.2.2.length)
    (hne : 0 < data.length) :
    queued k (run s0 evs) = queued k s0 ++ [item k data] ∧ getX k (run s0 evs).frags = none := by
  have hnonempty : kev k evs ≠ [] := by
    obtain ⟨t, ht, _⟩ := hcov 0 hne
    exact List.ne_nil_of_mem ht
  have h := (spec k data).fold_reasm (kev k evs) (none, queued k s0) hnonempty
    (Keyed.Spec.okV_none _ _) hg
    (fun t ht => wanted_rng (hg t ht) (hpos t ht))
    (List.pairwise_map.mpr (hpw.imp disj_of_arith)) (fun a ha => by cases ha)
    (by
      intro i hi
      obtain ⟨t, ht, h1, h2⟩ := hcov i hi
      exact ⟨rng t, List.mem_append_left _ (List.mem_map_of_mem ht), (inRange_iff _ _).mpr ⟨h1, h2⟩⟩)
  rw [← view_run h0] at h
  exact ⟨congrArg Prod.snd h, congrArg Prod.fst h⟩

private def kA : Key := ⟨"10.0.0.2", 4556, 7⟩
private def kB : Key := ⟨"10.0.0.2", 4556, 8⟩
private def evsEx : List Ev :=
  [.xfer kA 5 3 [13, 14], .xfer kB 9 0 [1], .bundle "10.0.0.3" 1 [0x80], .xfer kA 5 0 [10, 11, 12]]

example : queued kA (run Rx.init evsEx) = [item kA [10, 11, 12, 13, 14]] :=
  (C13_reasm [10, 11, 12, 13, 14] kA evsEx Rx.init rfl (by decide) (by decide) (by decide)
    (by decide) (by decide)).1

/-- Nothing is queued while octets are missing: as long as one of the segments is still to come
    (`post` contains a message of `k`), the prefix `pre` queues nothing for `k`. -/
theorem C13_nothing_while_missing (data : Bytes) (k : Key) (pre post : List Ev) (s0 : Rx)
    (h0 : getX k s0.frags = none)
    (hg : ∀ t ∈ kev k (pre ++ post), t.1 = data.length ∧ t.2.1 + t.2.2.length ≤ data.length ∧
      t.2.2 = (data.drop t.2.1).take t.2.2.length)
    (hpos : ∀ t ∈ kev k (pre ++ post), 0 < t.2.2.length)
    (hpw : (kev k (pre ++ post)).Pairwise
      (fun a b => a.2.1 + a.2.2.length ≤ b.2.1 ∨ b.2.1 + b.2.2.length ≤ a.2.1))
    (hmiss : kev k post ≠ []) :
    queued k (run s0 pre) = queued k s0 := by
  rw [kev_append] at hg hpos hpw
  obtain ⟨m, hm⟩ := List.exists_mem_of_ne_nil _ hmiss
  have hgm := hg m (List.mem_append_right _ hm)
  have h := ((spec k data).fold_missing (w := rng m)
    (wanted_rng hgm (hpos m (List.mem_append_right _ hm)))
    (kev k pre) (none, queued k s0) (Keyed.Spec.okV_none _ _)
    (fun t ht => hg t (List.mem_append_left _ ht))
    (fun t ht => disj_of_arith ((List.pairwise_append.mp hpw).2.2 t ht m hm))
    (fun a ha => by cases ha)).1
  rw [← view_run h0] at h
  exact h

/-- The same for the segments the sender produces: any permutation of consecutive non-empty parts
    of the bundle, interleaved with anything else, queues exactly one copy. -/
theorem C13_reasm_perm (data : Bytes) (k : Key) (ps : List (Nat × Bytes)) (evs : List Ev) (s0 : Rx)
    (h0 : getX k s0.frags = none) (hc : Contig 0 ps) (hcat : (ps.map (·.2)).flatten = data)
    (hpos : ∀ p ∈ ps, 0 < p.2.length) (hne : 0 < data.length)
    (hperm : (kev k evs).Perm (ps.map fun p => (data.length, p.1, p.2))) :
    queued k (run s0 evs) = queued k s0 ++ [item k data] ∧ getX k (run s0 evs).frags = none := by
  have hsl := contig_slices data ps 0 (Nat.zero_le _) hc (by simpa using hcat)
  have hmem := fun t => (hperm.mem_iff (a := t)).trans List.mem_map
  apply C13_reasm data k evs s0 h0
  · intro t ht
    obtain ⟨p, hp, rfl⟩ := (hmem t).mp ht
    exact ⟨rfl, (hsl p hp).1, (hsl p hp).2⟩
  · intro t ht
    obtain ⟨p, hp, rfl⟩ := (hmem t).mp ht
    exact hpos p hp
  · exact (hperm.pairwise_iff (fun h => h.symm)).mpr
      (List.pairwise_map.mpr ((contig_pairwise ps 0 hc).imp Or.inl))
  · intro i hi
    obtain ⟨p, hp, h1, h2⟩ := contig_cover ps 0 hc i (Nat.zero_le _) (by rw [hcat]; omega)
    exact ⟨_, (hmem _).mpr ⟨p, hp, rfl⟩, h1, h2⟩
  · exact hne

/-- Per-message handling: a datagram that consists of several TRANSFER messages followed by
    nothing or by padding (a zero octet and anything after it) is processed message by message. -/
theorem C13_per_message (addr : String) (port : Nat) (pad : Bytes)
    (hpad : pad = [] ∨ ∃ r, pad = 0x00 :: r) :
    ∀ (msgs : List (Nat × Nat × Nat × Bytes)) (s : Rx),
    (∀ m ∈ msgs, m.1 < 2 ^ 64 ∧ m.2.1 < 2 ^ 64 ∧ m.2.2.1 < 2 ^ 64 ∧ m.2.2.2.length < 2 ^ 64) →
    recvDatagram false s addr port
      ((msgs.map fun m => encTransfer m.1 m.2.1 m.2.2.1 m.2.2.2).flatten ++ pad) =
    runT s addr port msgs := by
  have key : ∀ (msgs : List (Nat × Nat × Nat × Bytes)) (s : Rx) (f : Nat),
      (∀ m ∈ msgs, m.1 < 2 ^ 64 ∧ m.2.1 < 2 ^ 64 ∧ m.2.2.1 < 2 ^ 64 ∧ m.2.2.2.length < 2 ^ 64) →
      msgs.length < f →
      recvLoop f false addr port s
        ((msgs.map fun m => encTransfer m.1 m.2.1 m.2.2.1 m.2.2.2).flatten ++ pad) =
      runT s addr port msgs := by
    intro msgs
    induction msgs with
    | nil =>
      intro s f _ _
      simp only [List.map_nil, List.flatten_nil, List.nil_append, runT]
      rcases hpad with rfl | ⟨r, rfl⟩
      · exact recvLoop_nil _ _ _ _ _
      · exact recvLoop_pad _ _ _ _ _ _
    | cons m rest ih =>
      intro s f hb hf
      obtain ⟨id, total, off, chunk⟩ := m
      cases f with
      | zero => simp at hf
      | succ f =>
        obtain ⟨b1, b2, b3, b4⟩ := hb _ List.mem_cons_self
        simp only [List.map_cons, List.flatten_cons, List.append_assoc, runT]
        rw [recvLoop_enc f addr port s id total off chunk _ b1 b2 b3 b4]
        cases recvTransfer s ⟨addr, port, id⟩ total off chunk with
        | error e => rfl
        | ok s' =>
          exact ih s' f (fun m hm => hb m (List.mem_cons_of_mem _ hm))
            (by simp at hf; omega)
  intro msgs s hb
  unfold recvDatagram
  apply key msgs s _ hb
  have := length_le_flatten_map (fun m => encTransfer m.1 m.2.1 m.2.2.1 m.2.2.2) msgs
    (fun m _ => by rw [encTransfer_length]; omega)
  simp only [List.length_append]; omega

/-- Octets of value zero at the end of a datagram are data when they belong to the last message:
    padding is recognised per message by its first octet, it is never stripped from the end. A
    segment whose data ends in zeros, sent unpadded, is handled with all of its data. -/
theorem C13_trailing_zero_kept (addr : String) (port : Nat) (s : Rx) (id total off : Nat)
    (chunk : Bytes) (zeros : Nat)
    (h1 : id < 2 ^ 64) (h2 : total < 2 ^ 64) (h3 : off < 2 ^ 64)
    (h4 : (chunk ++ List.replicate zeros 0).length < 2 ^ 64) :
    recvDatagram false s addr port (encTransfer id total off (chunk ++ List.replicate zeros 0)) =
      runT s addr port [(id, total, off, chunk ++ List.replicate zeros 0)] := by
  have := C13_per_message addr port [] (Or.inl rfl)
    [(id, total, off, chunk ++ List.replicate zeros 0)] s
    (by intro m hm; simp only [List.mem_singleton] at hm; subst hm; exact ⟨h1, h2, h3, h4⟩)
  simpa using this

example : ((recvDatagram false (recvDatagram false Rx.init "a" 1 (encTransfer 0 5 3 [0, 0])).1 "a" 1
    (encTransfer 0 5 0 [0, 0, 0])).1.queue.map fun q => q.2.data) = [[0, 0, 0, 0, 0]] := by decide

/-- Per-message handling of a whole bundle inside a datagram: a message that starts with a major
    type 4 octet and is a self-delimiting CBOR item (`skipItem` stops right after it) is queued as
    one bundle, and processing goes on with what follows. (Delimiting arbitrary CBOR is `skipItem`;
    that it agrees with `cbor2.load` is checked by the correspondence run, not proved.) -/
theorem C13_per_message_bundle (f : Nat) (addr : String) (port : Nat) (s : Rx) (x : UInt8)
    (tl r : Bytes) (hx : x.toNat / 32 = 4)
    (hd : skipItem (skipFuel (x :: tl ++ r)) (x :: tl ++ r) = some r) :
    recvLoop (f + 1) false addr port s (x :: tl ++ r) =
      recvLoop f false addr port (addRx s ⟨addr, port, none, (x :: tl).length, x :: tl⟩) r := by
  have h0 : x ≠ 0x00 := by intro h; rw [h] at hx; revert hx; decide
  have h6 : x ≠ 0x06 := by intro h; rw [h] at hx; revert hx; decide
  have hdtls : ¬ (20 ≤ x.toNat ∧ x.toNat ≤ 23) := by omega
  have htake : (x :: tl ++ r).take ((x :: tl ++ r).length - r.length) = x :: tl := by
    have : (x :: tl ++ r).length - r.length = (x :: tl).length := by
      simp only [List.length_append]; omega
    rw [this]; exact List.take_left' rfl
  conv => lhs; unfold recvLoop
  simp only [List.cons_append] at hd htake ⊢
  simp only [h0, h6, hdtls, hx, if_false, if_true, hd, htake, Bool.false_eq_true]

example : ∀ r : Bytes, skipItem (skipFuel ([0x82, 1, 2] ++ r)) ([0x82, 1, 2] ++ r) = some r := by
  intro r
  have : skipFuel ([0x82, 1, 2] ++ r) = (2 * r.length + 4) + 4 := by simp [skipFuel]; omega
  rw [this]
  simp [skipItem, skipN, Cbor.decHead]

/-- End to end: the datagrams `_send_transfer` produces for a bundle that needs segmenting
    (with `remain_size > 0`), delivered one per datagram in any order to a receiver that has no
    entry for that transfer, queue exactly one copy of the bundle. -/
theorem C13_end_to_end (id : Nat) (data : Bytes) (mtu : Nat) (addr : String) (port : Nat) (s0 : Rx)
    (hid : id < 2 ^ 64) (hlen : data.length < 2 ^ 64) (hne : 0 < data.length)
    (hseg : mtu ≤ data.length) (hrem : 0 < remainSize mtu id data.length)
    (h0 : getX ⟨addr, port, id⟩ s0.frags = none) :
    ∃ ps : List (Nat × Bytes),
      sendTransfer id data (some mtu) =
        .ok (ps.map fun p => encTransfer id data.length p.1 p.2) ∧
      ∀ ps' : List (Nat × Bytes), ps'.Perm ps →
        queued ⟨addr, port, id⟩
          ((ps'.map fun p => encTransfer id data.length p.1 p.2).foldl
            (fun s d => (recvDatagram false s addr port d).1) s0) =
        queued ⟨addr, port, id⟩ s0 ++ [item ⟨addr, port, id⟩ data] := by
  obtain ⟨ps, hs, hc, hcat, hall, hsl⟩ := C13_cover id data mtu hseg hrem
  refine ⟨ps, hs, ?_⟩
  intro ps' hperm
  have hrun : (ps'.map fun p => encTransfer id data.length p.1 p.2).foldl
        (fun s d => (recvDatagram false s addr port d).1) s0 =
      run s0 (ps'.map fun p => Ev.xfer ⟨addr, port, id⟩ data.length p.1 p.2) := by
    refine Keyed.foldl_map_congr _ _ _ _ ps' s0 fun p hp s => ?_
    have := hsl p (hperm.mem_iff.mp hp)
    exact recvDatagram_enc s addr port id data.length p.1 p.2 hid hlen (by omega) (by omega)
  rw [hrun]
  refine (C13_reasm_perm data ⟨addr, port, id⟩ ps _ s0 h0 hc hcat (fun p hp => (hall p hp).1) hne ?_).1
  rw [kev_eq, Keyed.filterMap_map_some _ (fun p => (data.length, p.1, p.2)) _ (fun p => if_pos rfl)]
  exact hperm.map _

private theorem idsOK_reach (ops : List Op) : IdsOK (ops.foldl opStep Rx.init) :=
  ops.foldlRecOn opStep ⟨(fun e he => by cases he), List.Pairwise.nil⟩
    fun s hs op _ => opStep_idsOK s op hs

/-- Whatever datagrams arrive and whatever the application pops, in any order: the queued ids
    are all below the counter and strictly increase along the queue — every bundle is announced
    under an id of its own. -/
theorem C13_rx_ids_distinct (ops : List Op) :
    (queueIds (ops.foldl opStep Rx.init)).Pairwise (· < ·) ∧
    ∀ i ∈ queueIds (ops.foldl opStep Rx.init), i < (ops.foldl opStep Rx.init).rxId := by
  obtain ⟨h1, h2⟩ := idsOK_reach ops
  refine ⟨by simpa [queueIds, List.pairwise_map] using h2, ?_⟩
  intro i hi
  obtain ⟨e, he, rfl⟩ := List.mem_map.mp hi
  exact h1 e he

/-- The receive id of a reassembled bundle is the local counter, whatever transfer id the peer
    chose: a TRANSFER message either queues nothing, or exactly one entry under `_rx_id`, and the
    counter moves on by one. -/
theorem C13_rx_id_is_local_counter (s : Rx) (k : Key) (total off : Nat) (chunk : Bytes) :
    ((step s (.xfer k total off chunk)).queue = s.queue ∧
      (step s (.xfer k total off chunk)).rxId = s.rxId) ∨
    ∃ q, (step s (.xfer k total off chunk)).queue = s.queue ++ [(s.rxId, q)] ∧
      q.xid = some k.xid ∧ (step s (.xfer k total off chunk)).rxId = s.rxId + 1 := by
  have key : ∀ x : Xfer, ((applyFrag s k x off chunk).queue = s.queue ∧
        (applyFrag s k x off chunk).rxId = s.rxId) ∨
      ∃ q, (applyFrag s k x off chunk).queue = s.queue ++ [(s.rxId, q)] ∧
        q.xid = some k.xid ∧ (applyFrag s k x off chunk).rxId = s.rxId + 1 := by
    intro x
    unfold applyFrag
    split
    · exact Or.inr ⟨_, rfl, rfl, rfl⟩
    · exact Or.inl ⟨rfl, rfl⟩
  rcases step_xfer_cases s k total off chunk with h | ⟨x, _, h⟩
  · rw [h]; exact Or.inl ⟨rfl, rfl⟩
  · rw [h]; exact key x

example : queueIds (run Rx.init [.bundle "a" 1 [0x80], .xfer ⟨"a", 1, 0⟩ 2 0 [0x81, 0]]) = [0, 1] := by
  decide

/-- Hence `_rx_queue[id] = item` never replaces an entry: in every reachable state the dict
    assignment under the next id is an append (what `addRx` does). -/
theorem C13_rx_never_overwrites (ops : List Op) (q : QItem) :
    dictSet (ops.foldl opStep Rx.init).rxId q (ops.foldl opStep Rx.init).queue =
      (addRx (ops.foldl opStep Rx.init) q).queue := by
  obtain ⟨h1, _⟩ := idsOK_reach ops
  rw [dictSet_fresh _ _ _ (fun e he => by have := h1 e he; omega)]
  rfl

/-- An id is never used again, not even after it was popped: whatever is queued after further
    operations was either queued before or got an id at or above the earlier counter (and all ids
    announced earlier are below it). -/
theorem C13_rx_id_never_reused (ops more : List Op) :
    (ops.foldl opStep Rx.init).rxId ≤ ((ops ++ more).foldl opStep Rx.init).rxId ∧
    ∀ e ∈ ((ops ++ more).foldl opStep Rx.init).queue,
      e ∈ (ops.foldl opStep Rx.init).queue ∨ (ops.foldl opStep Rx.init).rxId ≤ e.1 := by
  rw [List.foldl_append]
  generalize ops.foldl opStep Rx.init = s
  refine more.foldlRecOn opStep
    (motive := fun t => s.rxId ≤ t.rxId ∧ ∀ e ∈ t.queue, e ∈ s.queue ∨ s.rxId ≤ e.1)
    ⟨Nat.le_refl _, fun e he => Or.inl he⟩ ?_
  intro t ⟨h1, h2⟩ op _
  cases op with
  | dgram rej addr port data =>
    -- a datagram appends entries with ids from `t`'s counter on
    obtain ⟨hr, ex, hq, hb, _⟩ := recvDatagram_ext rej t addr port data
    refine ⟨Nat.le_trans h1 hr, fun e he => ?_⟩
    rcases List.mem_append.mp (hq ▸ he) with h | h
    · exact h2 e h
    · exact Or.inr (Nat.le_trans h1 (hb e h).1)
  | pop bid =>
    exact ⟨(opStep_pop t bid).1 ▸ h1, fun e he => h2 e ((opStep_pop t bid).2 e he)⟩

/-- Popping a queued id returns exactly the data announced under that id, once: the entry is
    gone afterwards (a second pop is a `KeyError`), every other entry stays, and the queue lists
    exactly the other ids. -/
theorem C13_pop_exact (ops : List Op) (bid : Nat) (q : QItem)
    (hm : (bid, q) ∈ (ops.foldl opStep Rx.init).queue) :
    ∃ s', popData (ops.foldl opStep Rx.init) bid = some (q.data, s') ∧
      popData s' bid = none ∧
      queueIds s' = (queueIds (ops.foldl opStep Rx.init)).filter (· != bid) ∧
      ∀ e ∈ (ops.foldl opStep Rx.init).queue, e.1 ≠ bid → e ∈ s'.queue :=
  popData_exact _ (idsOK_reach ops) bid q hm

example : (queueIds ([Op.dgram false "10.0.0.2" 4556 [0x82, 1, 2, 0x81, 3],
      Op.dgram false "10.0.0.3" 4556 [0x80], Op.pop 1].foldl opStep Rx.init) = [0, 2]) ∧
    ((popData ([Op.dgram false "10.0.0.2" 4556 [0x82, 1, 2, 0x81, 3],
      Op.dgram false "10.0.0.3" 4556 [0x80]].foldl opStep Rx.init) 1).map (·.1) = some [0x81, 3]) := by
  decide

/-- `range_decode(range_encode(s)) == s` for every normalised interval set (ascending, non-empty
    atomic intervals separated by gaps — what `portion` keeps). -/
theorem C13_range_roundtrip (s : List (Nat × Nat)) (h : Norm false 0 s) :
    rangeDecode (rangeEncode s) = s := by
  unfold rangeDecode rangeEncode
  rw [rangeDecode_encode_from s false 0 [] h (fun h => by cases h) (fun _ => rfl)]
  simp

example : Norm false 0 [(0, 3), (5, 9), (20, 21)] := by simp [Norm]
example : rangeEncode [(0, 3), (5, 9), (20, 21)] = [0, 3, 2, 4, 11, 1] := by decide

end Udpcl
end DtnVerif
