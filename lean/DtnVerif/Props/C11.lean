/-
  C11 — forwarding preserves the bundle and updates only the hop-by-hop blocks, in the
  transmitted bytes. All statements are about `fwdOut`, the `Bundle` value that `Bundle.enc` is
  applied to when `_do_fwd` hands octets to the convergence layer (`C11_tx_is_fwdOut`); the
  BTSD fields of its blocks are the octets that are encoded.
-/
import DtnVerif.Lemmas.AgentFwd
namespace DtnVerif
namespace Props
namespace C11
open Agent Bp

/-- Constants of the source the model relies on: block type codes of the hop-by-hop blocks,
    the transmit chain. -/
theorem C11_facts :
    ("CanonicalBlock", "PreviousNodeBlock", "bind_type", (typePrevNode : Int)) ∈ Facts.binds
    ∧ ("CanonicalBlock", "BundleAgeBlock", "bind_type", (typeAge : Int)) ∈ Facts.binds
    ∧ ("CanonicalBlock", "HopCountBlock", "bind_type", (typeHop : Int)) ∈ Facts.binds
    ∧ (Facts.chainSteps.filter (fun s => s.1 == "tx_chain")).map (fun s => (s.2.1, s.2.2.2))
        = [(0, "_do_tx_step"), (10, "_apply_bib"), (11, "_apply_bcb"), (20, "_create")] := by
  decide

/-- The octets `_do_fwd` hands to the convergence layer are `Bundle.enc` of `fwdOut`. -/
theorem C11_tx_is_fwdOut (cfg : Cfg) (st : St) (now : Nat) (sp : SendParams) (c0 : Ctr) (q : List Ctr)
    (hq : st.fwdQ = c0 :: q) (d : Bytes) (hd : Effect.tx d ∈ (doFwd cfg st now sp).2) :
    ∃ b, fwdOut cfg { st with fwdQ := q } now sp c0 = some b ∧ d = b.enc :=
  (doFwd_tx cfg st now sp c0 q hq d).1 hd

/-- The hop-by-hop edits never fail (block numbers are drawn fresh): a bundle routed forward is
    handed to the convergence layer whenever a transmit route matches, its CL is attached and
    the fragment step does not take the bundle over. -/
theorem C11_forward_is_sent (cfg : Cfg) (st : St) (now : Nat) (sp : SendParams) (c0 : Ctr)
    (hr : sp.txBits.any id = true) (hcl : sp.clOk = true)
    (hf : sp.frag = .none ∨ sp.frag = .raises) : ∃ b, fwdOut cfg st now sp c0 = some b :=
  fwdOut_isSome cfg st now sp c0 hr hcl hf

/-- the primary block fields named by the property (and the CRC type and fragment fields) -/
def primaryFieldsEq (p q : Primary) : Prop :=
  p.version = q.version ∧ p.flags = q.flags ∧ p.dest = q.dest ∧ p.src = q.src ∧ p.rpt = q.rpt
  ∧ p.ts = q.ts ∧ p.lifetime = q.lifetime ∧ p.crcType = q.crcType ∧ p.fragOff = q.fragOff
  ∧ p.totalLen = q.totalLen

/-- **Primary block unchanged.** Whatever was received — creation time 0, lifetime 0, an absent
    (CBOR null) report-to included — every primary block field of the forwarded bundle equals
    the received one: `_do_fwd` sends with `as_source=False`, so `_apply_primary` does not run.
    (Only the CRC value is recomputed.) -/
theorem C11_primary_unchanged (cfg : Cfg) (st : St) (now : Nat) (sp : SendParams) (c0 : Ctr)
    (b : Bundle) (h : fwdOut cfg st now sp c0 = some b) :
    primaryFieldsEq b.primary c0.primary := by
  obtain rfl := fwdOut_some _ _ _ _ _ _ h
  obtain ⟨_, hp, _, _, _⟩ := (fwdEdit_spec cfg st now c0).1
  simp only [Ctr.wire, primaryFieldsEq, hp]
  simp

/-- **Every bit of the bundle processing flags is preserved**, named in `PrimaryBlock.Flag` or
    not (reserved / unassigned bits included): the flags field is an arbitrary natural number in
    the model and leaves as received. -/
theorem C11_flags_bits_preserved (cfg : Cfg) (st : St) (now : Nat) (sp : SendParams) (c0 : Ctr)
    (b : Bundle) (h : fwdOut cfg st now sp c0 = some b) :
    ∀ k, b.primary.flags.testBit k = c0.primary.flags.testBit k := by
  intro k
  rw [(C11_primary_unchanged cfg st now sp c0 b h).2.1]

/-- **The primary EIDs leave as received, whatever their text**: destination, source and
    report-to are opaque octet strings to the forwarder — a query or fragment part (`?…`, `#…`, empty
    ones included) is part of the scheme-specific part and is neither parsed nor rebuilt. -/
theorem C11_eids_unchanged (cfg : Cfg) (st : St) (now : Nat) (sp : SendParams) (c0 : Ctr)
    (b : Bundle) (h : fwdOut cfg st now sp c0 = some b) :
    b.primary.dest = c0.primary.dest ∧ b.primary.src = c0.primary.src ∧ b.primary.rpt = c0.primary.rpt := by
  obtain ⟨_, _, h3, h4, h5, _⟩ := C11_primary_unchanged cfg st now sp c0 b h
  exact ⟨h3, h4, h5⟩

/-- witnesses shared with the harness (harness/props/c11.py `w_d11`, `w_life0`, …) -/
def wCfg : Cfg := { nodeId := .dtn [47, 47, 110, 111, 100, 101, 47], rxRoutes := [.forward] }
def wSp : SendParams := { txBits := [true] }
def wPay : Blk := { c := { typeCode := 1, blockNum := 1, btsd := some [1, 2, 3] } }
def wPri (time seq life : Nat) : Primary :=
  { dest := .dtn [47, 47, 102, 97, 114, 47, 120], src := .dtn [47, 47, 115, 114, 99, 47],
    ts := ⟨time, seq⟩, lifetime := life }
def wD11 : Ctr :=
  { primary := wPri 0 7 60000,
    blocks := [{ c := { typeCode := 7, blockNum := 2, btsd := some (encBundleAge 5) } }, wPay] }
def wLife0 : Ctr := { primary := wPri 5000 0 0, blocks := [wPay] }
def wNullRpt : Ctr :=
  { primary := { wPri 5000 0 60000 with flags := 0x10000 }, rptNone := true, blocks := [wPay] }

example : ∃ b, fwdOut wCfg {} 9000 wSp wD11 = some b ∧ b.primary.ts = ⟨0, 7⟩
    ∧ b.blocks.map (·.typeCode) = [6, 1] := ⟨_, rfl, by decide, by decide⟩
example : ∃ b, fwdOut wCfg {} 9000 wSp wLife0 = some b ∧ b.primary.lifetime = 0 := ⟨_, rfl, by decide⟩
-- destination dtn://far/x#inbox (harness `w_eidparts`): the '#inbox' stays
example : ∃ b, fwdOut wCfg {} 9000 wSp { primary := { wPri 5000 0 60000 with dest := .dtn [47, 47, 102, 97, 114, 47, 120, 35, 105, 110, 98, 111, 120] }, blocks := [wPay] } = some b
    ∧ b.primary.dest = .dtn [47, 47, 102, 97, 114, 47, 120, 35, 105, 110, 98, 111, 120] := ⟨_, rfl, by decide⟩
-- a reserved flag bit (0x200000) next to NO_FRAGMENT, primary CRC type 0 (harness `w_resflags`)
example : ∃ b, fwdOut wCfg {} 9000 wSp { primary := { wPri 5000 0 60000 with flags := 0x200004 }, blocks := [wPay] } = some b
    ∧ b.primary.flags = 0x200004 := ⟨_, rfl, by decide⟩
example : ∃ b, fwdOut wCfg {} 9000 wSp wNullRpt = some b ∧ b.primary.rpt = .dtnNone := ⟨_, rfl, by decide⟩

/-- Every received block whose type is neither 6 nor 7 is encoded with its type, number, flags,
    CRC type, and the BTSD `wireBtsd` picks for it after the hop-count bump. -/
theorem C11_other_blocks_kept (cfg : Cfg) (st : St) (now : Nat) (sp : SendParams) (c0 : Ctr) (b : Bundle)
    (hnd : c0.nums.Nodup) (h : fwdOut cfg st now sp c0 = some b) (x : Blk) (hx : x ∈ c0.blocks)
    (h6 : x.c.typeCode ≠ typePrevNode) (h7 : x.c.typeCode ≠ typeAge) :
    ∃ y ∈ b.blocks, wireOf (bumpHop x) y := by
  obtain rfl := fwdOut_some _ _ _ _ _ _ h
  simp only [Ctr.wire]
  exact finalBlocks_of_mem _ _ _ (fwdEdit_keep cfg st now c0 hnd x hx h6 h7)

/-- **Payload unchanged.** The payload block leaves with the octets it arrived with (whatever
    the administrative-record flag says: a cached BTSD is never re-encoded). -/
theorem C11_payload_unchanged (cfg : Cfg) (st : St) (now : Nat) (sp : SendParams) (c0 : Ctr)
    (b : Bundle) (hnd : c0.nums.Nodup) (h : fwdOut cfg st now sp c0 = some b)
    (x : Blk) (hx : x ∈ c0.blocks) (ht : x.c.typeCode = typePayload) (d : Bytes)
    (hd : x.c.btsd = some d) :
    ∃ y ∈ b.blocks, y.typeCode = typePayload ∧ y.blockNum = x.num ∧ y.btsd = some d := by
  have hnh : x.isHop = false := by simp [Blk.isHop, ht, typePayload, typeHop]
  obtain ⟨y, hy, h1, h2, _, _, h5⟩ :=
    C11_other_blocks_kept cfg st now sp c0 b hnd h x hx (by rw [ht]; decide) (by rw [ht]; decide)
  rw [bumpHop_not_hop x hnh] at h1 h2 h5
  refine ⟨y, hy, by rw [h1, ht], by rw [h2]; rfl, ?_⟩
  rw [h5]
  simp [Blk.wireBtsd, hd]

/-- the same holds for every other extension block that is not a dissected hop-count block -/
theorem C11_extension_unchanged (cfg : Cfg) (st : St) (now : Nat) (sp : SendParams) (c0 : Ctr)
    (b : Bundle) (hnd : c0.nums.Nodup) (h : fwdOut cfg st now sp c0 = some b)
    (x : Blk) (hx : x ∈ c0.blocks) (h6 : x.c.typeCode ≠ typePrevNode) (h7 : x.c.typeCode ≠ typeAge)
    (hnh : x.isHop = false) (d : Bytes) (hd : x.c.btsd = some d) :
    ∃ y ∈ b.blocks, y.typeCode = x.c.typeCode ∧ y.blockNum = x.num ∧ y.flags = x.c.flags
      ∧ y.crcType = x.c.crcType ∧ y.btsd = some d := by
  obtain ⟨y, hy, h1, h2, h3, h4, h5⟩ := C11_other_blocks_kept cfg st now sp c0 b hnd h x hx h6 h7
  rw [bumpHop_not_hop x hnh] at h1 h2 h3 h4 h5
  exact ⟨y, hy, h1, h2, h3, h4, by rw [h5]; simp [Blk.wireBtsd, hd]⟩

/-- **Hop count + 1 in the bytes.** Every dissected hop-count block (`x.hop = some (l, c)` is
    what dissection of its BTSD gave) leaves with the same number and with BTSD
    `[l, c + 1]`: the cached octets are dropped after the bump, so the encoder regenerates them. -/
theorem C11_hop_plus_one (cfg : Cfg) (st : St) (now : Nat) (sp : SendParams) (c0 : Ctr) (b : Bundle)
    (hnd : c0.nums.Nodup) (h : fwdOut cfg st now sp c0 = some b)
    (x : Blk) (hx : x ∈ c0.blocks) (ht : x.c.typeCode = typeHop) (hp : x.parsed = true)
    (l c : Nat) (hmem : x.hop = some (l, c)) (hadm : x.adminReenc = none) :
    ∃ y ∈ b.blocks, y.typeCode = typeHop ∧ y.blockNum = x.num ∧ y.btsd = some (encHopCount l (c + 1)) := by
  have hh : x.isHop = true := by simp [Blk.isHop, ht, hp]
  obtain ⟨y, hy, h1, h2, _, _, h5⟩ :=
    C11_other_blocks_kept cfg st now sp c0 b hnd h x hx (by rw [ht]; decide) (by rw [ht]; decide)
  refine ⟨y, hy, ?_, ?_, ?_⟩
  · rw [h1, (bumpHop_keeps x).1, ht]
  · rw [h2, (bumpHop_keeps x).2.1]; rfl
  · rw [h5]
    simp [Blk.wireBtsd, bumpHop, hh, hadm, hmem]

/-- witness shared with the harness (`w_d10`): hop-count block number 2, `[30, 4]` -/
def wHopBlk : Blk :=
  { c := { typeCode := 10, blockNum := 2, btsd := some (encHopCount 30 4) }, hop := some (30, 4) }
def wD10 : Ctr := { primary := wPri 5000 0 60000, blocks := [wHopBlk, wPay] }

example : ∃ b, fwdOut wCfg {} 9000 wSp wD10 = some b
    ∧ ∃ y ∈ b.blocks, y.typeCode = typeHop ∧ y.blockNum = 2 ∧ y.btsd = some (encHopCount 30 5) :=
  ⟨_, rfl, by decide⟩

/-- **Exactly one previous-node block leaves, naming this node** — whatever type-6 blocks were
    received (several, or with a BTSD that does not dissect). -/
theorem C11_one_prev_node (cfg : Cfg) (st : St) (now : Nat) (sp : SendParams) (c0 : Ctr)
    (b : Bundle) (hnd : c0.nums.Nodup) (h : fwdOut cfg st now sp c0 = some b) :
    (b.blocks.filter (isType typePrevNode)).length = 1
    ∧ ∀ y ∈ b.blocks, y.typeCode = typePrevNode → y.btsd = some (encPrevNode cfg.nodeId) := by
  obtain rfl := fwdOut_some _ _ _ _ _ _ h
  obtain ⟨n, hn⟩ := fwdEdit_prev cfg st now c0 hnd
  simp only [Ctr.wire]
  constructor
  · rw [count_types, hn]; rfl
  · intro y hy ht
    obtain ⟨x, hx, h5⟩ := finalBlocks_of_type _ _ _ y hy ht
    rw [hn] at hx
    rw [h5, List.mem_singleton.1 hx]
    rfl

def wDupPrev : Ctr :=
  { primary := wPri 5000 0 60000,
    blocks := [{ c := { typeCode := 6, blockNum := 2, btsd := some (encPrevNode (.dtn [47, 47, 112, 49, 47])) } },
               { c := { typeCode := 6, blockNum := 3, btsd := some (encPrevNode (.dtn [47, 47, 112, 50, 47])) } },
               { c := { typeCode := 6, blockNum := 4, btsd := some [0x82, 0x01] }, parsed := false },
               wPay] }

example : ∃ b, fwdOut wCfg {} 9000 wSp wDupPrev = some b
    ∧ b.blocks.map (fun y => (y.typeCode, y.blockNum)) = [(6, 2), (7, 3), (1, 1)] := ⟨_, rfl, by decide⟩

/-- **At most one age block leaves**; when the creation time is not 0 there is exactly one and it
    carries `max(0, now - creation time)` (`Nat` subtraction). With creation time 0 none leaves:
    the received age blocks are removed and no new one is added (see the note in the report). -/
theorem C11_age_at_most_one (cfg : Cfg) (st : St) (now : Nat) (sp : SendParams) (c0 : Ctr)
    (b : Bundle) (hnd : c0.nums.Nodup) (h : fwdOut cfg st now sp c0 = some b) :
    (b.blocks.filter (isType typeAge)).length = (if c0.primary.ts.time = 0 then 0 else 1)
    ∧ ∀ y ∈ b.blocks, y.typeCode = typeAge →
        y.btsd = some (encBundleAge (now - c0.primary.ts.time)) := by
  obtain rfl := fwdOut_some _ _ _ _ _ _ h
  obtain ⟨m, hm⟩ := fwdEdit_age cfg st now c0 hnd
  simp only [Ctr.wire]
  constructor
  · rw [count_types, hm]; split <;> rfl
  · intro y hy ht
    obtain ⟨x, hx, h5⟩ := finalBlocks_of_type _ _ _ y hy ht
    rw [hm] at hx
    split at hx
    · cases hx
    · rw [h5, List.mem_singleton.1 hx]
      rfl

/-- **A creation time ahead of the node clock gives age 0**, never a positive age. -/
theorem C11_age_zero_for_future_creation (cfg : Cfg) (st : St) (now : Nat) (sp : SendParams) (c0 : Ctr)
    (b : Bundle) (hnd : c0.nums.Nodup) (h : fwdOut cfg st now sp c0 = some b)
    (hfut : now ≤ c0.primary.ts.time) :
    ∀ y ∈ b.blocks, y.typeCode = typeAge → y.btsd = some (encBundleAge 0) := by
  intro y hy ht
  have := (C11_age_at_most_one cfg st now sp c0 b hnd h).2 y hy ht
  rwa [Nat.sub_eq_zero_of_le hfut] at this

def wDupAge : Ctr :=
  { primary := wPri 5000 0 60000,
    blocks := [{ c := { typeCode := 7, blockNum := 2, btsd := some (encBundleAge 5) } },
               { c := { typeCode := 7, blockNum := 3, btsd := some (encBundleAge 6) } }, wPay] }
def wFuture : Ctr := { primary := wPri 10000 0 60000, blocks := [wPay] }

example : ∃ b, fwdOut wCfg {} 9000 wSp wDupAge = some b
    ∧ b.blocks.map (fun y => (y.typeCode, y.blockNum, y.btsd)) =
        [(6, 4, some (encPrevNode wCfg.nodeId)), (7, 5, some (encBundleAge 4000)), (1, 1, some [1, 2, 3])] :=
  ⟨_, rfl, by decide⟩
example : ∃ b, fwdOut wCfg {} 9000 wSp wFuture = some b
    ∧ ∃ y ∈ b.blocks, y.typeCode = typeAge ∧ y.btsd = some (encBundleAge 0) := ⟨_, rfl, by decide⟩

/-- **Block numbers stay unique and the payload stays last, numbered 1** (for a received bundle
    with unique block numbers — `BundleContainer` refuses any other — whose last block is the
    payload block numbered 1). -/
theorem C11_blocknums_unique_payload_last (cfg : Cfg) (st : St) (now : Nat) (sp : SendParams)
    (c0 : Ctr) (b : Bundle) (hnd : c0.nums.Nodup) (h : fwdOut cfg st now sp c0 = some b) :
    (b.blocks.map (·.blockNum)).Nodup
    ∧ ∀ p, c0.blocks.getLast? = some p → p.c.typeCode = typePayload → p.num = 1 →
        ∃ y, b.blocks.getLast? = some y ∧ y.typeCode = typePayload ∧ y.blockNum = 1 := by
  obtain rfl := fwdOut_some _ _ _ _ _ _ h
  simp only [Ctr.wire]
  constructor
  · rw [finalBlocks_nums]; exact ((fwdEdit_spec cfg st now c0).2 hnd).1
  · intro p hl ht hn
    have := fwdEdit_last cfg st now c0 hnd p hl (by rw [ht]; decide) (by rw [ht]; decide)
    obtain ⟨y, hy, h1, h2, _⟩ := finalBlocks_getLast _ (takeCrc
      (fwdEdit cfg st now c0).2.1.primary.crcType sp.crcs).2 _ this
    refine ⟨y, hy, ?_, ?_⟩
    · rw [h1, (bumpHop_keeps p).1, ht]
    · rw [h2, (bumpHop_keeps p).2.1]; exact hn

/-- **Duplicate block numbers are refused at reception.** A received bundle in which two blocks
    share a number (or one is numbered 0) never becomes a container: `BundleContainer(...)` raises
    in `reload`, the exception leaves the CL callback, nothing is queued, nothing is recorded. -/
theorem C11_duplicate_numbers_not_forwarded (cfg : Cfg) (st : St) (now : Nat) (rx : RxBundle)
    (h : ¬ (rx.blocks.map Blk.num).Nodup ∨ 0 ∈ rx.blocks.map Blk.num) :
    clRecv cfg st now rx = (st, [.escaped]) := by
  have : loadOk rx.blocks = false := by
    simp only [loadOk]
    rcases h with h | h
    · simp [h]
    · have hc : (rx.blocks.map Blk.num).contains 0 = true := List.contains_iff_mem.2 h
      rw [hc]; simp
  simp [clRecv, this]

/-- Hence every container in the forwarding queue has unique block numbers: together with
    `C11_blocknums_unique_payload_last` whatever is transmitted has unique block numbers, for all
    received bundles, whatever their numbering. -/
theorem C11_queue_unique_numbers (cfg : Cfg) (st : St) (now : Nat) (rx : RxBundle) (c : Ctr)
    (h : c ∈ (clRecv cfg st now rx).1.fwdQ) : c ∈ st.fwdQ ∨ c.nums.Nodup := by
  unfold clRecv at h
  split at h
  · exact Or.inl h
  · rename_i hl
    have hnd : (rx.blocks.map Blk.num).Nodup := by
      by_cases hn : (rx.blocks.map Blk.num).Nodup
      · exact hn
      · simp [loadOk, hn] at hl
    refine (recv_fwdQ_mem cfg st now rx c h).imp_right fun hc => ?_
    unfold Ctr.nums
    rw [hc.2]; exact hnd

def wDupNum : RxBundle :=
  { primary := wPri 5000 0 60000, routeBits := [true],
    blocks := [{ c := { typeCode := 192, blockNum := 2 } }, { c := { typeCode := 193, blockNum := 2 } }, wPay] }

example : (clRecv wCfg {} 9000 wDupNum).2 = [.escaped] ∧ (clRecv wCfg {} 9000 wDupNum).1.fwdQ = [] := by decide

-- the D10 witness meets the hypotheses of the theorems above
example : wD10.nums.Nodup ∧ wD10.blocks.getLast? = some wPay := by decide

example : ∃ b, fwdOut wCfg {} 9000 wSp wD10 = some b ∧ primaryFieldsEq b.primary wD10.primary :=
  ⟨_, rfl, by unfold primaryFieldsEq; decide⟩

example : ∃ b, fwdOut wCfg {} 9000 wSp wD10 = some b
    ∧ b.blocks.map (fun y => (y.typeCode, y.blockNum)) = [(10, 2), (6, 3), (7, 4), (1, 1)] :=
  ⟨_, rfl, by decide⟩

end C11
end Props
end DtnVerif
