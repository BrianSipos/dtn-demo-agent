/-
  C12  A bundle with an unverifiable security block is never delivered.

  Model: Model/SecChain.lean – the BPSec steps 19/20 of the receive chain, `CoseContext.verify_*`'s
  structure checks, target loop and accept-after-verify removal, and the chain runner. The
  cryptographic outcome of each (security block, target) pair is a parameter (`Env.orc`): nothing
  here says a wrong key or an altered byte *makes* the primitive fail (that is C03/C16's reduction
  plus the primitive's own security), only what the agent does with each outcome.

  `Quirks.current` is the code as it now is (snapshot iteration, exception ⇒ FAILED_SEC,
  undissectable type 11/12 block ⇒ FAILED_SEC, absent parameters / empty result array read as empty
  lists). `C12_fail_closed` is the property's first sentence at full strength for it, `C12_pass`
  the second. The four former defects (D15, D16, D22, D29) are kept as concrete regression
  instances: the check replays their implementation-side twins on every run.
-/
import DtnVerif.Model.SecChain
import DtnVerif.Lemmas.SecChain
import DtnVerif.Generated.Facts
namespace DtnVerif
namespace Props
open SecChain

/-- Constants of the source the model relies on: context id, block type codes, reason codes and the
    position of the two BPSec steps in the receive chain – after reassembly (10), before the first
    application step (30), BCB before BIB, nothing else in between. -/
theorem C12_facts :
    Facts.const_bpsec_BPSEC_COSE_CONTEXT_ID = (coseContextId : Int) ∧
    ("CanonicalBlock", "BlockIntegrityBlock", "bind_type", (typeBib : Int)) ∈ Facts.binds ∧
    ("CanonicalBlock", "BlockConfidentialityBlock", "bind_type", (typeBcb : Int)) ∈ Facts.binds ∧
    Facts.enum_admin_StatusReport_ReasonCode_UNKNOWN_SEC = (reasonUnknownSec : Int) ∧
    Facts.enum_admin_StatusReport_ReasonCode_FAILED_SEC = (reasonFailedSec : Int) ∧
    Facts.enum_admin_StatusReport_ReasonCode_MISSING_SEC = 12 ∧
    Facts.enum_admin_StatusReport_ReasonCode_CONFLICT_SEC = 16 ∧
    ((Facts.chainSteps.filter (fun s => s.1 == "rx_chain" && decide (10 < s.2.1) && decide (s.2.1 < 30))).map
        (fun s => (s.2.1, s.2.2.2))) = [(19, "_verify_bcb"), (20, "_verify_bib")] ∧
    ("rx_chain", 10, "Fragment reassembly", "_reassemble") ∈ Facts.chainSteps ∧
    ("rx_chain", 30, "Administrative handling", "_recv_bundle") ∈ Facts.chainSteps := by
  -- `+kernel`: the string comparisons are evaluated by the kernel only, not by the elaborator as well
  decide +kernel

def FailClosed (q : Quirks) : Prop :=
  ∀ (e : Env) (st : List Blk), bundleDefect e st = true →
    (run q e true st).delivered = false ∧ (run q e true st).secDeleted = true

private theorem secDeleted_of_code (n : Nat) (bl : List Blk) (h : n = reasonUnknownSec ∨ n = reasonFailedSec) :
    (Result.mk false true (some (.code n)) bl).secDeleted = true := by
  rcases h with h | h <;> subst h <;> rfl

/-- Snapshot iteration (D15 off), exceptions recorded as reason codes (D16 off) and selection by type
    code (D22 off) suffice, whatever the D29 switch: the `TypeError` it stands for is recorded as a
    failure like any other exception; what it breaks is the pass side (`AllVerify.notrap`). -/
theorem failClosed_of_repaired (q : Quirks) (h15 : q.skipAfterRemove = false) (h16 : q.excAsString = false)
    (h22 : q.ignoreRawSec = false) : FailClosed q := by
  intro e st hdef
  simp only [bundleDefect, List.any_eq_true, Bool.and_eq_true] at hdef
  obtain ⟨b, hb, hsec, hd⟩ := hdef
  have ev1 := evolves_stepRun q e typeBcb st
  obtain ⟨c1, d1⟩ := stepRun_snapshot q h15 h22 e typeBcb st
  unfold run
  simp only [Bool.not_true, Bool.false_eq_true, ↓reduceIte]
  by_cases hne : (stepRun q e typeBcb st).2 = []
  · -- the BCB step passes: the defective block is a BIB and is still there
    rw [hne]
    simp only [verdict_nil]
    have htc : b.typeCode = typeBib := by
      simp only [isSec, Bool.or_eq_true, beq_iff_eq] at hsec
      exact hsec.resolve_right fun h => d1 ⟨b, hb, h, hd⟩ hne
    obtain ⟨b', hb', sh⟩ := ev1.keep b hb (by rw [htc]; decide)
    have hd' : blkDefect e (present (stepRun q e typeBcb st).1) b' = true := by
      rw [blkDefect_shape e _ sh]
      exact blkDefect_mono e (present st) _ (fun n => ev1.back.present_sub n) b hd
    obtain ⟨c2, d2⟩ := stepRun_snapshot q h15 h22 e typeBib (stepRun q e typeBcb st).1
    obtain ⟨n, hv, hn⟩ := verdict_codes _ (d2 ⟨b', hb', by rw [sh.1, htc], hd'⟩) (c2 h16)
    rw [hv]
    exact ⟨rfl, secDeleted_of_code n _ hn⟩
  · obtain ⟨n, hv, hn⟩ := verdict_codes _ hne (c1 h16)
    rw [hv]
    exact ⟨rfl, secDeleted_of_code n _ hn⟩

/-- **C12 fail-closed, full strength.** For every bundle recorded for
    delivery, every accept setting, every oracle of cryptographic outcomes: if some type 11/12 block
    is not an ASB, names an unknown context, has duplicate parameter / result ids, undecodable
    additional headers, or has a target that is missing, lacks exactly one result or does not
    verify – then no application step sees the bundle and `delete` is recorded with reason 13 or 15. -/
theorem C12_fail_closed : FailClosed Quirks.current :=
  failClosed_of_repaired Quirks.current rfl rfl rfl

/-- **Every security block is visited, whatever is removed on acceptance.** In a step of the code as
    it is, a block of the step's type that is defective when the step starts leaves the step with a
    recorded failure – also when blocks before it verify, are accepted and removed from the container
    during the loop (first, middle or last of any number of such blocks). -/
theorem C12_every_block_visited (e : Env) (tc : Nat) (st : List Blk) (b : Blk) (hb : b ∈ st)
    (htc : b.typeCode = tc) (hd : blkDefect e (present st) b = true) :
    (stepRun Quirks.current e tc st).2 ≠ [] :=
  (stepRun_snapshot Quirks.current rfl rfl e tc st).2 ⟨b, hb, htc, hd⟩

/-- **A type 11/12 block whose data does not decode fails the bundle.** The steps look the blocks up by
    block type code, not by the class their data dissected to: a block that claims to be a BIB / BCB but
    is not an abstract security block (one flipped bit in a CBOR head suffices) is visited and counts
    as FAILED_SEC. -/
theorem C12_undecodable_security_block_fails (e : Env) (st : List Blk) (b : Blk) (hb : b ∈ st)
    (hs : isSec b = true) (hp : b.pl = none) :
    (run Quirks.current e true st).delivered = false ∧ (run Quirks.current e true st).secDeleted = true := by
  apply C12_fail_closed
  simp only [bundleDefect, List.any_eq_true, Bool.and_eq_true]
  exact ⟨b, hb, hs, by simp [blkDefect, hp]⟩

/-- **Any failing target fails the block, at every position.** For a security block of any quirk set,
    acceptance setting and block list: if the target at index `j` of its target list – first, middle
    or last – is missing, has no result list, has not exactly one result, or its cryptographic check
    does not return "verified", then verifying the block records a failure; later (or earlier)
    targets that verify do not withdraw it. -/
theorem C12_any_target_fails (q : Quirks) (e : Env) (tc : Nat) (st : List Blk) (num : Nat) (a : Asb)
    (j : Nat) (hj : j < a.targets.length)
    (hbad : targetDefect (e.orc num) (present st) a.results j a.targets[j] = true) :
    (verifyAsb q e tc st num a).2.isSome = true := by
  apply verifyAsb_fails
  have h := anyTargetDefect_index (e.orc num) (present st) a.results a.targets 0 j hj (by simpa using hbad)
  simp [asbDefect, h]

/-- three targets, only the first / the middle / the last one failing -/
example : ∀ bad ∈ [1, 3, 5],
    (verifyAsb Quirks.current ⟨false, fun _ t => if t == bad then .fail else .ok, fun _ _ => []⟩ 11
      [⟨1, 1, [], none⟩, ⟨7, 3, [], none⟩, ⟨10, 5, [], none⟩] 2
      { targets := [1, 3, 5], ctxId := 3, paramIds := [5], results := [[17], [17], [17]] }).2 = some (.code 15) := by
  decide

namespace C12ex
def okAsb (targets : List Nat) : Asb := { targets := targets, ctxId := 3, paramIds := [5], results := targets.map (fun _ => [17]) }
def payload : Blk := ⟨1, 1, [0x68, 0x69], none⟩
def age : Blk := ⟨7, 3, [0x00], none⟩

/-- D15: two BIBs, acceptance on; the first (over block 3) verifies and is removed; the second (over
    the payload, tag wrong) must still be verified. -/
def envD15 : Env := ⟨true, fun s _ => if s == 2 then .ok else .fail, fun _ _ => []⟩
def stD15 : List Blk := [⟨11, 2, [], some (okAsb [3])⟩, ⟨11, 4, [], some (okAsb [1])⟩, age, payload]

/-- D16: a BIB whose target block does not exist (`KeyError` inside `verify_bib`), alone and next to
    an ordinary failure (unknown context). -/
def envD16 : Env := ⟨false, fun _ _ => .ok, fun _ _ => []⟩
def stD16 : List Blk := [⟨11, 2, [], some (okAsb [9])⟩, payload]
def stD16mixed : List Blk := [⟨11, 2, [], some { okAsb [1] with ctxId := 99 }⟩, ⟨11, 4, [], some (okAsb [9])⟩, payload]

/-- D22: a type-11 block whose BTSD is not an ASB. -/
def stD22 : List Blk := [⟨11, 2, [0xff], none⟩, payload]

/-- D29: a BIB without the optional parameters field whose only target verifies. -/
def stD29 : List Blk := [⟨11, 2, [], some { okAsb [1] with hasParams := false, paramIds := [] }⟩, payload]
end C12ex

/-- two BCBs, acceptance on: the first decrypts and is removed, the second does not decrypt -/
example : (run Quirks.current ⟨true, fun s _ => if s == 2 then .ok else .fail, fun _ _ => [1]⟩ true
    [⟨12, 2, [], some (C12ex.okAsb [3])⟩, ⟨12, 4, [], some (C12ex.okAsb [1])⟩, C12ex.age, C12ex.payload]).secDeleted = true := by
  decide

/-- hypotheses of `C12_fail_closed` hold on the four witnesses of the former defects, and its
    conclusion computes: not delivered, deleted with a security reason (15; 15 wins over 13) -/
example : bundleDefect C12ex.envD15 C12ex.stD15 = true ∧ bundleDefect C12ex.envD16 C12ex.stD16 = true ∧
    bundleDefect C12ex.envD16 C12ex.stD16mixed = true ∧ bundleDefect C12ex.envD16 C12ex.stD22 = true ∧
    (run Quirks.current C12ex.envD15 true C12ex.stD15).secDeleted = true ∧
    (run Quirks.current C12ex.envD16 true C12ex.stD16).reason = some (.code 15) ∧
    (run Quirks.current C12ex.envD16 true C12ex.stD16mixed).reason = some (.code 15) ∧
    (run Quirks.current C12ex.envD16 true C12ex.stD22).secDeleted = true ∧
    (run Quirks.current C12ex.envD16 true C12ex.stD22).delivered = false := by decide

/-- a security block without the optional parameters field is not a defect and is delivered -/
example : bundleDefect C12ex.envD16 C12ex.stD29 = false ∧
    (run Quirks.current C12ex.envD16 true C12ex.stD29).delivered = true := by decide

/-- **A verifying BCB over the payload yields delivery of the decrypted data – administrative records
    included.** The receive chain does not look into the payload before the BPSec steps: for *any*
    payload octets `d` on the wire (the ciphertext of an administrative record, say, which is not
    itself a decodable record), a BCB numbered `n ≠ 1` over block 1 that verifies and is accepted
    leads to delivery, the BCB removed and the payload block holding exactly the plaintext
    `e.plain n 1` – which is what the administrative handler (order 30) then reads. Without
    acceptance the bundle is delivered unchanged. -/
theorem C12_bcb_over_payload_delivers_plaintext (e : Env) (n : Nat) (hn : n ≠ 1) (x d : Bytes)
    (hok : e.orc n 1 = .ok) :
    run Quirks.current e true
      [⟨typeBcb, n, x, some { targets := [1], ctxId := coseContextId, paramIds := [5], results := [[16]] }⟩,
       ⟨1, 1, d, none⟩] =
    (if e.accept then ⟨true, false, none, [⟨1, 1, e.plain n 1, none⟩]⟩
     else ⟨true, false, none,
       [⟨typeBcb, n, x, some { targets := [1], ctxId := coseContextId, paramIds := [5], results := [[16]] }⟩,
        ⟨1, 1, d, none⟩]⟩) := by
  have h1 : (1 == n) = false := by simpa using (Ne.symm hn)
  have h2 : (n == 1) = false := by simpa using hn
  cases hacc : e.accept <;>
    simp [run, stepRun, Quirks.current, iterCopy, sel, verifyBlock, verifyAsb, checkSecblk, checkResults, hasDup,
      targetLoop, present, hok, hacc, writePlain, removeBlk, optList, verdict, typeBcb, typeBib, coseContextId, h1, h2, hn, List.filter]

/-- **C12 pass.** (Any quirk set, in particular the code as it is.) If every security block is clean
    – dissected, known context, no duplicate ids, every target present with exactly one result that
    verifies – and no security block targets another security block (and, only for a quirk set with
    `noneRaises`, i.e. not for the current code, parameters field present and no empty result array), the bundle reaches the
    application steps, `delete` is not recorded, no block is invented and every non-security block
    is still there with its type, number and dissected payload. -/
theorem C12_pass (q : Quirks) (e : Env) (st : List Blk) (hv : AllVerify q e st) :
    (run q e true st).delivered = true ∧ (run q e true st).deleted = false ∧
    Back st (run q e true st).blocks ∧ KeepsNonSec st (run q e true st).blocks := by
  obtain ⟨h1, hb1, hk1⟩ := stepRun_clean q e typeBcb (Or.inr rfl) st st hv (Back.refl st) (KeepsNonSec.refl st)
  obtain ⟨h2, hb2, hk2⟩ := stepRun_clean q e typeBib (Or.inl rfl) st (stepRun q e typeBcb st).1 hv hb1 hk1
  unfold run
  simp only [Bool.not_true, Bool.false_eq_true, ↓reduceIte, h1, verdict_nil, h2]
  exact ⟨trivial, trivial, hb2, hk2⟩

/-- Without acceptance a verified bundle whose security blocks each have at least one target (and
    on which nothing raises: `blkNoQuirk`) is delivered exactly as received: no block removed, no
    BTSD rewritten. (That it is delivered is `C12_pass`; the block list does not depend on `hv`.) -/
theorem C12_pass_unchanged (e : Env) (st : List Blk) (hacc : e.accept = false)
    (hwell : ∀ b ∈ st, isSec b = true → blkNoQuirk e (present st) b = true)
    (hv : AllVerify Quirks.current e st) : (run Quirks.current e true st).blocks = st :=
  run_blocks_const Quirks.current e true st hacc hwell

namespace C12ex
/-- BCB over the payload + BIB over the payload, both verify, acceptance on -/
def envAcc : Env := ⟨true, fun _ _ => .ok, fun _ _ => [0x70]⟩
def stBoth : List Blk := [⟨11, 2, [], some (okAsb [1])⟩, ⟨12, 4, [], some (okAsb [1])⟩, age, payload]
end C12ex

/-- hypotheses of `C12_pass` are satisfiable; with acceptance the plaintext is written, both security
    blocks are removed, the other blocks stay -/
example : run Quirks.current C12ex.envAcc true C12ex.stBoth =
    ⟨true, false, none, [C12ex.age, { C12ex.payload with btsd := [0x70] }]⟩ := by decide

example : AllVerify Quirks.current C12ex.envAcc C12ex.stBoth := by
  refine ⟨by decide, by decide, ?_⟩
  -- `b.pl = some a` written as `a ∈ b.pl`: all quantifiers are bounded and the statement decidable
  show ∀ b ∈ C12ex.stBoth, isSec b = true → ∀ a ∈ b.pl, ∀ t ∈ a.targets, ∀ b' ∈ C12ex.stBoth,
    b'.num = t → isSec b' = false
  decide

end Props
end DtnVerif
