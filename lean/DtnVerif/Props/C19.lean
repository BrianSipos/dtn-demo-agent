/-
  C19 — status reports are sent exactly when requested and say what happened.
-/
import DtnVerif.Lemmas.AgentFwd
namespace DtnVerif
namespace Props
namespace C19
open Agent Bp

/-- Constants of the source the report logic relies on. -/
theorem C19_facts :
    (flagReqDelete : Int) = Facts.enum_blocks_PrimaryBlock_Flag_REQ_DELETION_REPORT
    ∧ (flagReqDeliver : Int) = Facts.enum_blocks_PrimaryBlock_Flag_REQ_DELIVERY_REPORT
    ∧ (flagReqForward : Int) = Facts.enum_blocks_PrimaryBlock_Flag_REQ_FORWARDING_REPORT
    ∧ (flagReqReceive : Int) = Facts.enum_blocks_PrimaryBlock_Flag_REQ_RECEPTION_REPORT
    ∧ (flagStatusTime : Int) = Facts.enum_blocks_PrimaryBlock_Flag_REQ_STATUS_TIME
    ∧ (flagAdmin : Int) = Facts.enum_blocks_PrimaryBlock_Flag_PAYLOAD_ADMIN
    ∧ (reasonNoInfo : Int) = Facts.enum_admin_StatusReport_ReasonCode_NO_INFO
    ∧ (reasonNoRoute : Int) = Facts.enum_admin_StatusReport_ReasonCode_NO_ROUTE
    ∧ (crc32Type : Int) = Facts.enum_blocks_AbstractBlock_CrcType_CRC32
    ∧ ("AdminRecord", "StatusReport", "bind_type", (1 : Int)) ∈ Facts.binds := by
  decide

/-- **Report iff requested and occurred.** When `_finish_bundle` runs, a status report is
    produced exactly when the report-to endpoint is neither absent nor `dtn:none` and some
    recorded action (receive, forward, deliver, delete) has its request flag set. -/
theorem C19_iff (c : Ctr) :
    (createReport c).isSome = true ↔
      rptDisabled c = false ∧ ∃ a, hasAct c.actions a = true ∧ requested c a := by
  rw [← anyStatus_iff]
  unfold createReport reportFor
  cases h1 : rptDisabled c <;> cases h2 : anyStatus c <;> simp

example : (createReport { primary := { flags := 0x4000, rpt := .dtn [1] }, blocks := [],
                          actions := [(.receive, 5)] }).isSome = true := by decide
example : createReport { primary := { flags := 0x4000, rpt := .dtnNone }, blocks := [],
                         actions := [(.receive, 5)] } = none := by decide
example : createReport { primary := { flags := 0x4000, rpt := .dtn [1] }, blocks := [],
                         actions := [(.receive, 5)], rptNone := true } = none := by decide
example : createReport { primary := { flags := 0x20000, rpt := .dtn [1] }, blocks := [],
                         actions := [(.receive, 5), (.forward, 6)] } = none := by decide

/-- Each entry of the status array asserts an action only if that action was recorded on the
    bundle and its report was requested; a time accompanies the assertion exactly when the
    status-time flag is set, and it is the time recorded for that action. -/
theorem C19_status_entries (c : Ctr) (a : Action) :
    (statusFor c a ≠ .no ↔ hasAct c.actions a = true ∧ requested c a)
    ∧ (∀ t, statusFor c a = .yes (some t) →
        hasFlag c.primary.flags flagStatusTime = true ∧ (a, t) ∈ c.actions)
    ∧ (statusFor c a = .yes none → hasFlag c.primary.flags flagStatusTime = false) := by
  unfold statusFor requested
  cases ht : actTime c.actions a with
  | none =>
    simp [(actTime_eq_none _ _).1 ht]
  | some t =>
    have hm := actTime_some _ _ _ ht
    have hh : hasAct c.actions a = true := (hasAct_iff _ _).2 ⟨t, hm⟩
    cases hf : actionFlag a with
    | none => simp [hh]
    | some f =>
      cases hr : hasFlag c.primary.flags f <;> cases hs : hasFlag c.primary.flags flagStatusTime <;>
        simp [hh, hr, hm]

/-- **Content of a report.** The reply bundle is addressed to the subject's report-to
    endpoint, is flagged as an administrative record, carries CRC-32 on the primary and on the
    payload block, and its payload is the status-report record whose subject is the bundle's
    source and creation timestamp, whose reason is the recorded one (0 when none), and whose four
    assertions obey `C19_status_entries` (requested ∧ occurred only; times iff requested). -/
theorem C19_content (c r : Ctr) (h : createReport c = some r) :
    r.primary.dest = c.primary.rpt
    ∧ hasFlag r.primary.flags flagAdmin = true
    ∧ r.primary.crcType = crc32Type
    ∧ ∃ rep : StatusReport,
        r.blocks = [{ c := { typeCode := typePayload, blockNum := 1, flags := 0, crcType := crc32Type,
                             btsd := some rep.enc, crc := none } }]
        ∧ rep.subjSrc = c.primary.src ∧ rep.subjTs = c.primary.ts
        ∧ rep.reason = c.reason.getD reasonNoInfo
        ∧ rep.received = statusFor c .receive ∧ rep.forwarded = statusFor c .forward
        ∧ rep.delivered = statusFor c .deliver ∧ rep.deleted = statusFor c .delete := by
  cases createReport_some c r h
  exact ⟨rfl, by simp [replyCtr, hasFlag, flagAdmin], rfl, reportOf c, rfl, rfl, rfl, rfl, rfl, rfl, rfl, rfl⟩

example : ∃ r, createReport { primary := { flags := 0x14040, rpt := .dtn [1], src := .dtn [2], ts := ⟨7, 1⟩ },
                              blocks := [], actions := [(.receive, 5), (.forward, 6)] } = some r
    ∧ r.primary.dest = .dtn [1] ∧ r.primary.flags = 2 := ⟨_, rfl, by decide⟩

example : (statusFor { primary := { flags := 0x4040 }, blocks := [], actions := [(.receive, 9)] } .receive)
    = .yes (some 9) := by decide

/-- **No recursion.** A report's own flags request no report: whatever happens to a bundle
    carrying the flags of a status report (at this node after `_apply_primary`, or at any other
    node running this code), `create_report` yields nothing. -/
theorem C19_no_recursion (c r : Ctr) (h : createReport c = some r) :
    r.primary.flags = flagAdmin
    ∧ (∀ cfg st now, (applyPrimary cfg st now r).2.primary.flags = flagAdmin)
    ∧ ∀ c' : Ctr, c'.primary.flags = flagAdmin → createReport c' = none := by
  have hf : r.primary.flags = flagAdmin := by
    cases createReport_some c r h; rfl
  refine ⟨hf, ?_, ?_⟩
  · intro cfg st now
    exact (applyPrimary_keeps cfg st now r).1.2.2.2.trans hf
  · intro c' hc'
    have : anyStatus c' = false := by
      cases hh : anyStatus c' with
      | false => rfl
      | true =>
        obtain ⟨a, _, f, hf, hb⟩ := (anyStatus_iff c').1 hh
        rw [hc'] at hb
        cases a <;> simp [actionFlag] at hf <;> subst hf <;> revert hb <;> decide
    unfold createReport reportFor
    simp [this]

/-- **Forwarded ⇒ not reported deleted.** When an idle `_do_fwd` lets the bundle leave the node —
    whole (`tx`) or as fragments (`fragmented`, the fragment-creation step took it over) — every
    report it schedules asserts forwarding and does not assert deletion. The fragment outcome
    ranges over {none, consumed, raises, unsendable}. (`c0` is a queue entry as `recv_bundle`
    makes them: no 'delete' recorded, see `C19_queue_no_delete`.) -/
theorem C19_forward_not_deleted
    (cfg : Cfg) (st : St) (now : Nat) (sp : SendParams) (c0 : Ctr) (q : List Ctr)
    (hq : st.fwdQ = c0 :: q) (hnd : hasAct c0.actions .delete = false)
    (hout : (∃ d, Effect.tx d ∈ (doFwd cfg st now sp).2) ∨ Effect.fragmented ∈ (doFwd cfg st now sp).2) :
    ∀ i rep r, Effect.report i rep r ∈ (doFwd cfg st now sp).2 → rep.deleted = .no := by
  have ha := (fwdEdit_spec cfg { st with fwdQ := q } now c0).1.1
  rw [doFwd_cons cfg st now sp c0 q hq] at hout ⊢
  simp only [List.mem_append] at hout ⊢
  generalize (fwdEdit cfg { st with fwdQ := q } now c0).2.1 = c at ha hout ⊢
  -- what left the node is no report, so `fwdEnd` emitted it: 'forward' is what is recorded
  have hc : (fwdEnd now c (sendRes sp c)).1 = c.record .forward now := by
    rcases hout with ⟨d, h | h⟩ | h | h
    · exact fwdEnd_sent _ _ _ _ h
    · cases (finishEff_mem _ _ h).2
    · exact fwdEnd_sent _ _ _ _ h
    · cases (finishEff_mem _ _ h).2
  rintro i rep r (hm | hm)
  · exact absurd rfl (List.filter_eq_nil_iff.1 (fwdEnd_filter _ _ _).2 _ hm)
  · cases (finishEff_mem _ _ hm).2
    exact statusFor_absent _ _ (by rw [hc]; simp [hasAct_record, ha, hnd])

def d14Cfg : Cfg := { nodeId := .dtn [47, 47, 110, 111, 100, 101, 47], rxRoutes := [.forward] }
def d14Ctr : Ctr :=
  { primary := { flags := 0x50000, dest := .dtn [47, 47, 102, 114, 97, 103, 47, 120],
                 src := .dtn [47, 47, 115, 114, 99, 47], rpt := .dtn [47, 47, 114, 112, 116, 47],
                 ts := ⟨700, 0⟩, lifetime := 60000 },
    blocks := [{ c := { typeCode := 1, blockNum := 1, btsd := some [1, 2, 3] } }],
    actions := [(.receive, 800), (.forward, 800)] }
def d14St : St := { fwdQ := [d14Ctr] }

example : ∃ i rep r, (doFwd d14Cfg d14St 900 { txBits := [true], frag := .consumed }).2
    = [.fragmented, .report i rep r] ∧ rep.forwarded = .yes none ∧ rep.deleted = .no :=
  ⟨_, _, _, rfl, by decide, by decide⟩

/-- **When forwarding fails the report says deleted and does not say forwarded**: fragmentation
    impossible, no transmit route or no convergence layer ⇒ nothing is handed over, 'forward' is
    taken back, delete / "no known route" is recorded. -/
theorem C19_failed_forward_not_reported_forwarded
    (cfg : Cfg) (st : St) (now : Nat) (sp : SendParams) (c0 : Ctr) (q : List Ctr)
    (hq : st.fwdQ = c0 :: q)
    (hfail : sp.txBits.any id = false ∨ sp.frag = .unsendable ∨ (sp.frag ≠ .consumed ∧ sp.clOk = false)) :
    (∀ d, Effect.tx d ∉ (doFwd cfg st now sp).2) ∧ Effect.fragmented ∉ (doFwd cfg st now sp).2
    ∧ ∀ i rep r, Effect.report i rep r ∈ (doFwd cfg st now sp).2 →
        rep.forwarded = .no ∧ rep.reason = reasonNoRoute := by
  have hres : ∀ c, sendRes sp c = .noSender := by
    intro c
    simp only [sendRes]
    rcases hfail with h | h | ⟨h1, h2⟩
    · simp [h]
    · cases hb : sp.txBits.any id <;> simp [h]
    · cases hb : sp.txBits.any id <;> cases hf : sp.frag <;> simp_all
  rw [doFwd_cons cfg st now sp c0 q hq]
  generalize (fwdEdit cfg { st with fwdQ := q } now c0).2.1 = c
  simp only [hres, fwdEnd, List.nil_append]
  refine ⟨fun d hd => ?_, fun hd => ?_, fun i rep r hm => ?_⟩
  · cases (finishEff_mem _ _ hd).2
  · cases (finishEff_mem _ _ hd).2
  · cases (finishEff_mem _ _ hm).2
    constructor
    · apply statusFor_absent
      simp [hasAct_record, hasAct_delAct]
    · simp [reportOf, Ctr.record]

/-- Queue entries made by `recv_bundle` have no 'delete' recorded (it returns before queueing). -/
theorem C19_queue_no_delete (cfg : Cfg) (st : St) (now : Nat) (rx : RxBundle) (c : Ctr)
    (h : c ∈ (recvBundle cfg st now rx).1.fwdQ) : c ∈ st.fwdQ ∨ hasAct c.actions .delete = false :=
  (recv_fwdQ_mem cfg st now rx c h).imp_right And.left

/-- **After forwarding, the subject is the received identity** (creation time 0 included) and
    **an absent report-to yields no report**. -/
theorem C19_forward_report_subject (cfg : Cfg) (st : St) (now : Nat) (sp : SendParams) (c0 : Ctr)
    (q : List Ctr) (hq : st.fwdQ = c0 :: q) :
    (∀ i rep r, Effect.report i rep r ∈ (doFwd cfg st now sp).2 →
        rep.subjSrc = c0.primary.src ∧ rep.subjTs = c0.primary.ts ∧ r.primary.dest = c0.primary.rpt)
    ∧ (c0.rptNone = true → ∀ i rep r, Effect.report i rep r ∉ (doFwd cfg st now sp).2) := by
  constructor
  · intro i rep r hm
    obtain ⟨c', hc, hp, _⟩ := doFwd_report_source cfg st now sp c0 q hq _ hm rfl
    cases (finishEff_mem _ _ hc).2
    simp [reportOf, replyCtr, hp]
  · intro hn i rep r hm
    obtain ⟨c', hc, _, hrn⟩ := doFwd_report_source cfg st now sp c0 q hq _ hm rfl
    have hrep := (finishEff_mem _ _ hc).1
    simp [reportFor, rptDisabled, hrn, hn] at hrep

/-- **A bundle deleted for a BCB failure is not reported delivered.** For an accepted whole
    bundle whose confidentiality step fails with reason `r` (unknown context, undecodable block,
    decryption failure): it is not delivered, and every report asserts `delivered = no`. -/
theorem C19_security_failure_report (cfg : Cfg) (st : St) (now : Nat) (rx : RxBundle) (r : Nat)
    (hacc : accepted cfg st rx) (hf : isFragment rx.primary.flags = false) (hb : rx.bcb = .fail r) :
    (∀ i, Effect.delivered i ∉ (recvBundle cfg st now rx).2)
    ∧ ∀ i rep rc, Effect.report i rep rc ∈ (recvBundle cfg st now rx).2 → rep.delivered = .no := by
  rw [recv_accepted cfg st now rx hacc]
  exact dispose_no_deliver _ _ (chain_bcb_fail cfg rx now r _ rfl hf hb)

example : ∃ i rep rc, (recvBundle { nodeId := .dtn [1], rxRoutes := [] } {} 5
      { primary := { dest := .dtn [1], src := .dtn [3], rpt := .dtn [4], ts := ⟨4, 0⟩, flags := 0x60000 },
        blocks := [], bcb := .fail 13 }).2 = [.report i rep rc]
    ∧ rep.delivered = .no ∧ rep.deleted = .yes none ∧ rep.reason = 13 := ⟨_, _, _, rfl, by decide, by decide, by decide⟩

/-- **A failed forward is reported once, and the next report is about the next bundle.** After
    any idle `_do_fwd` on a queue `c0 :: c1 :: q` (successful or not), every report the next
    `_do_fwd` schedules names `c1` as its subject: the earlier bundle is not reported again. -/
theorem C19_next_report_about_next_bundle (cfg : Cfg) (st : St) (now now' : Nat) (sp sp' : SendParams)
    (c0 c1 : Ctr) (q : List Ctr) (hq : st.fwdQ = c0 :: c1 :: q) :
    ∀ i rep r, Effect.report i rep r ∈ (doFwd cfg (doFwd cfg st now sp).1 now' sp').2 →
      rep.subjSrc = c1.primary.src ∧ rep.subjTs = c1.primary.ts ∧ r.primary.dest = c1.primary.rpt := by
  have hq1 : (doFwd cfg st now sp).1.fwdQ = c1 :: q := by rw [(doFwd_state cfg st now sp).2, hq]; rfl
  exact (C19_forward_report_subject cfg _ now' sp' c1 q hq1).1

/-- **A fragment held for reassembly produces no delivery report.** For an accepted fragment
    whose reassembly step does not raise: it is not delivered, and no report asserts delivery
    (at its destination the step clears the action record: nothing at all is emitted). -/
theorem C19_fragment_held_no_delivery_report (cfg : Cfg) (st : St) (now : Nat) (rx : RxBundle)
    (hacc : accepted cfg st rx) (hf : isFragment rx.primary.flags = true)
    (hr : rx.reasmRaises = false) :
    (∀ i, Effect.delivered i ∉ (recvBundle cfg st now rx).2)
    ∧ ∀ i rep rc, Effect.report i rep rc ∈ (recvBundle cfg st now rx).2 → rep.delivered = .no := by
  rw [recv_accepted cfg st now rx hacc]
  exact dispose_no_deliver _ _ (chain_fragment_no_deliver cfg rx now _ rfl hf hr)

example : (recvBundle { nodeId := .dtn [1], rxRoutes := [] } {} 5
      { primary := { dest := .dtn [1], src := .dtn [3], rpt := .dtn [4], ts := ⟨4, 0⟩, flags := 0x24001,
                     fragOff := 0, totalLen := 8 },
        blocks := [{ c := { typeCode := 1, blockNum := 1, btsd := some [1, 2, 3, 4] } }] }).2 = [] := by decide

end C19
end Props
end DtnVerif
