/-
  C01 — TCPCL delivers every queued bundle exactly once, intact and in order.
  `deliver` (Model/TcpclSpec) is the ideal receiver: it is what the property means by "the bundle the
  segments carry".
-/
import DtnVerif.Lemmas.TcpclSys
import DtnVerif.Lemmas.TcpclSysLift
import DtnVerif.Lemmas.TcpclLive
import DtnVerif.Lemmas.TcpclCausalSys
import DtnVerif.Generated.Facts
namespace DtnVerif
namespace Tcpcl

/-- constants of the source the model relies on -/
theorem C01_facts :
    Facts.const_tcpcl_CHUNK_SIZE = chunkSize
    ∧ Facts.const_tcpcfg_segment_size_tx_initial = 104857
    ∧ Facts.const_tcpcfg_segment_size_mru = 10485760
    ∧ (Facts.binds.filter (fun b => b.1 == "TransferExtendHeader" && b.2.1 == "TransferTotalLength")).map
        (fun b => b.2.2.2) = [1] := by
  decide

/-- **G-rx.** Against an arbitrary peer and schedule: the list of completely received transfers of an
    endpoint is exactly what the ideal receiver reconstructs from the messages it processed — nothing
    truncated, duplicated, merged or reordered by anything else that happens at the endpoint. -/
theorem C01_rx_spec (cfg : Cfg) (evs : List Ev) :
    (runEp { cfg := cfg } evs).rxLog = deliver (runEp { cfg := cfg } evs).processed :=
  (rxInv_run evs _ (rxInv_init cfg)).1

/-- **G-pump.** The octets the socket accepted are always a prefix of the encoding of the emitted
    message sequence, for every pattern of partial writes. -/
theorem C01_wire (cfg : Cfg) (evs : List Ev) :
    (runEp { cfg := cfg } evs).accepted <+: encodeAll (runEp { cfg := cfg } evs).emitted :=
  (pumpInv_run evs _ (pumpInv_init cfg)).accepted_prefix

/-- **G-tx.** Against any schedule and any peer whose own sequence is legal, refuses nothing and
    announces a positive segment MRU: an ideal receiver of what the endpoint emitted reconstructs a
    prefix of the bundles the user queued, byte-identical and in order. -/
theorem C01_tx_spec (cfg : Cfg) (evs : List Ev) (h1 : 0 < cfg.segInit) (h2 : cfg.privExt = false)
    (hsend : ∀ d, Ev.send d ∈ evs → d.length < 2 ^ 64)
    (hleg : Legal (runEp (started cfg) evs).processed)
    (hok : ∀ m ∈ (runEp (started cfg) evs).processed, okMsg m) :
    deliver (runEp (started cfg) evs).emitted <+:
      (runEp (started cfg) evs).sendLog.map (fun it => (it.tid, it.data)) := by
  obtain ⟨P, hP⟩ := txInv_started_run cfg evs h1 h2 hsend hleg hok
  rw [hP.deliver_emitted, List.map_take]
  exact List.take_prefix _ _

/-- **Transport**, as a property of its own: at every reachable state of the two-endpoint system what
    one side has processed is a prefix of what the other side has emitted. -/
theorem C01_transport (cfgA cfgB : Cfg) (sch : List SysEv)
    (a1 : 0 < cfgA.segInit) (a2 : cfgA.privExt = false) (a3 : 0 < cfgA.segMru)
    (b1 : 0 < cfgB.segInit) (b2 : cfgB.privExt = false) (b3 : 0 < cfgB.segMru)
    (hwf : ∀ pre, pre <+: sch → SysWF (runSys (initSys cfgA cfgB) pre))
    (hs : ∀ ev ∈ sch, ev.sendOK) :
    (runSys (initSys cfgA cfgB) sch).b.processed <+: (runSys (initSys cfgA cfgB) sch).a.emitted
    ∧ (runSys (initSys cfgA cfgB) sch).a.processed <+: (runSys (initSys cfgA cfgB) sch).b.emitted :=
  (reach cfgA cfgB sch a1 a2 a3 b1 b2 b3 hwf hs).2.2

/-- **C01, identities too.** The completely received transfers of B, as (transfer id, data) pairs,
    are a prefix of A's queued bundles as (id handed out by `send`, data) pairs — and symmetrically. -/
theorem C01_prefix_ids (cfgA cfgB : Cfg) (sch : List SysEv)
    (a1 : 0 < cfgA.segInit) (a2 : cfgA.privExt = false) (a3 : 0 < cfgA.segMru)
    (b1 : 0 < cfgB.segInit) (b2 : cfgB.privExt = false) (b3 : 0 < cfgB.segMru)
    (hwf : ∀ pre, pre <+: sch → SysWF (runSys (initSys cfgA cfgB) pre))
    (hs : ∀ ev ∈ sch, ev.sendOK) :
    let s := runSys (initSys cfgA cfgB) sch
    s.b.rxLog <+: s.a.sendLog.map (fun it => (it.tid, it.data))
    ∧ s.a.rxLog <+: s.b.sendLog.map (fun it => (it.tid, it.data)) := by
  obtain ⟨hi, -, tB, tA⟩ := reach cfgA cfgB sch a1 a2 a3 b1 b2 b3 hwf hs
  exact ⟨rxLog_prefix_sendLog _ _ hi.ia hi.ib tB, rxLog_prefix_sendLog _ _ hi.ib hi.ia tA⟩

/-- **C01, safety, two endpoints.** For every schedule of the two-endpoint system — any interleaving
    of user sends, idle sources, partial socket writes, arbitrary read chunking and delays, timers,
    terminations and closes — the data of the transfers B has completely received is a prefix of the
    data A's user queued (and symmetrically): no truncation, duplication, merge or reordering. -/
theorem C01_prefix (cfgA cfgB : Cfg) (sch : List SysEv)
    (a1 : 0 < cfgA.segInit) (a2 : cfgA.privExt = false) (a3 : 0 < cfgA.segMru)
    (b1 : 0 < cfgB.segInit) (b2 : cfgB.privExt = false) (b3 : 0 < cfgB.segMru)
    (hwf : ∀ pre, pre <+: sch → SysWF (runSys (initSys cfgA cfgB) pre))
    (hs : ∀ ev ∈ sch, ev.sendOK) :
    let s := runSys (initSys cfgA cfgB) sch
    s.b.rxLog.map (·.2) <+: s.a.sendLog.map (·.data) ∧ s.a.rxLog.map (·.2) <+: s.b.sendLog.map (·.data) := by
  obtain ⟨pB, pA⟩ := C01_prefix_ids cfgA cfgB sch a1 a2 a3 b1 b2 b3 hwf hs
  have key : ∀ l : List TxItem, (l.map fun it => (it.tid, it.data)).map (·.2) = l.map (·.data) :=
    fun l => by rw [List.map_map]; rfl
  exact ⟨key _ ▸ pB.map (·.2), key _ ▸ pA.map (·.2)⟩

/-- **Success only after receipt.** In every reachable state of the two-endpoint system, for every
    transfer id A has reported as `send_bundle_finished(…, 'success')`, B has completely received a
    transfer with that id — and it is the very bundle A's user queued under that id (same octets).
    Symmetrically for B. -/
theorem C01_success_after_receipt (cfgA cfgB : Cfg) (sch : List SysEv)
    (a1 : 0 < cfgA.segInit) (a2 : cfgA.privExt = false) (a3 : 0 < cfgA.segMru)
    (b1 : 0 < cfgB.segInit) (b2 : cfgB.privExt = false) (b3 : 0 < cfgB.segMru)
    (hwf : ∀ pre, pre <+: sch → SysWF (runSys (initSys cfgA cfgB) pre))
    (hs : ∀ ev ∈ sch, ev.sendOK) :
    let s := runSys (initSys cfgA cfgB) sch
    (∀ t ∈ s.a.successLog, ∃ d, (t, d) ∈ s.b.rxLog ∧ (⟨t, d⟩ : TxItem) ∈ s.a.sendLog)
    ∧ (∀ t ∈ s.b.successLog, ∃ d, (t, d) ∈ s.a.rxLog ∧ (⟨t, d⟩ : TxItem) ∈ s.b.sendLog) := by
  intro s
  obtain ⟨hi, -, tB, tA⟩ := reach cfgA cfgB sch a1 a2 a3 b1 b2 b3 hwf hs
  obtain ⟨sa, sb⟩ := sys_lift_init SuccInv succInv_step succInv_init cfgA cfgB sch
  obtain ⟨ka, kb⟩ := sys_lift_init AckInv ackInv_step ackInv_init cfgA cfgB sch
  exact ⟨success_after_receipt s.a s.b hi.ia hi.ib sa kb tA tB, success_after_receipt s.b s.a hi.ib hi.ia sb ka tB tA⟩

/-- **No lost wake-up (progress is always possible).** In every reachable state of the two-endpoint
    system, an endpoint that is not closed and has a transfer being segmented has either an idle
    source for `_process_queue` pending or octets in its message-level transmit buffer (so its TX
    callback runs and re-triggers the queue when the buffer drains); one that has queued transfers
    and none in progress has an idle source pending; and the pending flag is never set without a
    source. (The zero-length-bundle stall repaired in 46e8b2d was a violation of exactly this.) -/
theorem C01_no_lost_wakeup (cfgA cfgB : Cfg) (sch : List SysEv)
    (a1 : 0 < cfgA.segInit) (a2 : cfgA.privExt = false) (a3 : 0 < cfgA.segMru)
    (b1 : 0 < cfgB.segInit) (b2 : cfgB.privExt = false) (b3 : 0 < cfgB.segMru)
    (hwf : ∀ pre, pre <+: sch → SysWF (runSys (initSys cfgA cfgB) pre))
    (hs : ∀ ev ∈ sch, ev.sendOK) :
    WakeInv (runSys (initSys cfgA cfgB) sch).a ∧ WakeInv (runSys (initSys cfgA cfgB) sch).b :=
  wake_reach cfgA cfgB sch a1 a2 a3 b1 b2 b3 hwf hs

/-- **Delivery at quiescence.** In any reachable state of the two-endpoint system in which the
    direction A → B has drained — both endpoints open, A not terminating, A's two transmit buffers and
    the wire empty, no `_process_queue` idle source pending at A — B has processed exactly the message
    sequence A emitted and has completely received *every* bundle A's user ever queued: same ids,
    same octets, same order, each exactly once. (With `C01_no_lost_wakeup`: as long as that is not
    yet the case, some internal event is enabled.) -/
theorem C01_quiescent_delivery (cfgA cfgB : Cfg) (sch : List SysEv)
    (a1 : 0 < cfgA.segInit) (a2 : cfgA.privExt = false) (a3 : 0 < cfgA.segMru)
    (b1 : 0 < cfgB.segInit) (b2 : cfgB.privExt = false) (b3 : 0 < cfgB.segMru)
    (hwf : ∀ pre, pre <+: sch → SysWF (runSys (initSys cfgA cfgB) pre))
    (hs : ∀ ev ∈ sch, ev.sendOK) :
    let s := runSys (initSys cfgA cfgB) sch
    (Drained s.a s.b s.toB → s.b.processed = s.a.emitted
        ∧ s.b.rxLog = s.a.sendLog.map (fun it => (it.tid, it.data)))
    ∧ (Drained s.b s.a s.toA → s.a.processed = s.b.emitted
        ∧ s.a.rxLog = s.b.sendLog.map (fun it => (it.tid, it.data))) := by
  intro s
  obtain ⟨hi, hw, -, -⟩ := reach cfgA cfgB sch a1 a2 a3 b1 b2 b3 hwf hs
  obtain ⟨wa, wb⟩ := C01_no_lost_wakeup cfgA cfgB sch a1 a2 a3 b1 b2 b3 hwf hs
  exact ⟨fun hd => (drained_delivery s.a s.b s.toB hi.ia hi.ib wa hw.1 hi.wireB hd).2.2,
    fun hd => (drained_delivery s.b s.a s.toA hi.ib hi.ia wb hw.2 hi.wireA hd).2.2⟩

/-- **Success at quiescence.** In any reachable state of the two-endpoint system in which the
    direction A → B has drained, the return direction B → A holds nothing either (B's two transmit
    buffers and the wire empty), and A never had to send a MSG_REJECT: every bundle A's user ever
    queued has been reported `send_bundle_finished(…, 'success')` (by `C18_finished_once` exactly once)
    and A's send queue is empty — and symmetrically for B. The MSG_REJECT premise is an observable of
    the run; that two faithful endpoints never reject each other is `C01_no_reject_sys`, which makes
    `C01_quiescent_all_success` the form without this premise. -/
theorem C01_quiescent_success (cfgA cfgB : Cfg) (sch : List SysEv)
    (a1 : 0 < cfgA.segInit) (a2 : cfgA.privExt = false) (a3 : 0 < cfgA.segMru)
    (b1 : 0 < cfgB.segInit) (b2 : cfgB.privExt = false) (b3 : 0 < cfgB.segMru)
    (hwf : ∀ pre, pre <+: sch → SysWF (runSys (initSys cfgA cfgB) pre))
    (hs : ∀ ev ∈ sch, ev.sendOK) :
    let s := runSys (initSys cfgA cfgB) sch
    (Drained s.a s.b s.toB → s.b.txBuf = [] → s.b.connBuf = [] → s.toA = [] →
        (∀ m ∈ s.a.emitted, m.isRej = false) →
        (∀ it ∈ s.a.sendLog, it.tid ∈ s.a.successLog) ∧ s.a.txMap = [])
    ∧ (Drained s.b s.a s.toA → s.a.txBuf = [] → s.a.connBuf = [] → s.toB = [] →
        (∀ m ∈ s.b.emitted, m.isRej = false) →
        (∀ it ∈ s.b.sendLog, it.tid ∈ s.b.successLog) ∧ s.b.txMap = []) := by
  intro s
  obtain ⟨hi, hw, -, -⟩ := reach cfgA cfgB sch a1 a2 a3 b1 b2 b3 hwf hs
  obtain ⟨wa, wb⟩ := C01_no_lost_wakeup cfgA cfgB sch a1 a2 a3 b1 b2 b3 hwf hs
  obtain ⟨qa, qb⟩ := sys_lift_init (fun e => QInv e ∧ SP e)
    (fun e ev h => ⟨h.1.step e ev, sp_step e ev h.1 h.2⟩)
    (fun cfg => ⟨QInv.init cfg, sp_init cfg⟩) cfgA cfgB sch
  obtain ⟨sa, sb⟩ := sys_lift_init ASInv asInv_step asInv_init cfgA cfgB sch
  obtain ⟨ra, rb⟩ := sys_lift_init RxAckInv rxAckInv_step rxAckInv_init cfgA cfgB sch
  exact ⟨fun hd h1 h2 h3 =>
      drained_success s.a s.b s.toB s.toA hi.ia hi.ib wa hw.1 hw.2 hi.wireB hi.wireA hd h1 h2 h3 qa.1 qa.2 sa rb,
    fun hd h1 h2 h3 =>
      drained_success s.b s.a s.toA s.toB hi.ib hi.ia wb hw.2 hw.1 hi.wireA hi.wireB hd h1 h2 h3 qb.1 qb.2 sb ra⟩

/-- **Two faithful endpoints never reject each other, and acknowledgements stay aligned.** For every
    schedule of the two-endpoint system: neither endpoint ever emits a MSG_REJECT; the acknowledgements
    each side has processed answer, one for one and in order, the first segments that side has emitted;
    and every emitted segment not yet answered belongs to a transfer still awaiting its acknowledgement
    or still being segmented. -/
theorem C01_no_reject_sys (cfgA cfgB : Cfg) (sch : List SysEv)
    (a1 : 0 < cfgA.segInit) (a2 : cfgA.privExt = false) (a3 : 0 < cfgA.segMru)
    (b1 : 0 < cfgB.segInit) (b2 : cfgB.privExt = false) (b3 : 0 < cfgB.segMru)
    (hwf : ∀ pre, pre <+: sch → SysWF (runSys (initSys cfgA cfgB) pre))
    (hs : ∀ ev ∈ sch, ev.sendOK) :
    let s := runSys (initSys cfgA cfgB) sch
    (∀ m ∈ s.a.emitted, m.isRej = false) ∧ (∀ m ∈ s.b.emitted, m.isRej = false)
    ∧ (acksOf s.a.processed).map ackInfo <+: segInfo s.a.emitted
    ∧ (acksOf s.b.processed).map ackInfo <+: segInfo s.b.emitted
    ∧ CI s.a ∧ CI s.b := by
  intro s
  obtain ⟨hi, hcs⟩ := cs_reach cfgA cfgB sch a1 a2 a3 b1 b2 b3 hwf hs
  obtain ⟨alA, alB⟩ := aligned_sys hi (hwf sch (List.prefix_refl _)) hcs.ka hcs.kb
  exact ⟨hcs.ca.no_rej, hcs.cb.no_rej, alA, alB, hcs.ca, hcs.cb⟩

/-- **Success at quiescence, unconditionally.** When both directions have drained, every bundle ever
    queued at A has been reported `success` and A's send queue is empty (and symmetrically). -/
theorem C01_quiescent_all_success (cfgA cfgB : Cfg) (sch : List SysEv)
    (a1 : 0 < cfgA.segInit) (a2 : cfgA.privExt = false) (a3 : 0 < cfgA.segMru)
    (b1 : 0 < cfgB.segInit) (b2 : cfgB.privExt = false) (b3 : 0 < cfgB.segMru)
    (hwf : ∀ pre, pre <+: sch → SysWF (runSys (initSys cfgA cfgB) pre))
    (hs : ∀ ev ∈ sch, ev.sendOK) :
    let s := runSys (initSys cfgA cfgB) sch
    (Drained s.a s.b s.toB → s.b.txBuf = [] → s.b.connBuf = [] → s.toA = [] →
        (∀ it ∈ s.a.sendLog, it.tid ∈ s.a.successLog) ∧ s.a.txMap = [])
    ∧ (Drained s.b s.a s.toA → s.a.txBuf = [] → s.a.connBuf = [] → s.toB = [] →
        (∀ it ∈ s.b.sendLog, it.tid ∈ s.b.successLog) ∧ s.b.txMap = []) := by
  intro s
  obtain ⟨na, nb, _⟩ := C01_no_reject_sys cfgA cfgB sch a1 a2 a3 b1 b2 b3 hwf hs
  obtain ⟨ha, hb⟩ := C01_quiescent_success cfgA cfgB sch a1 a2 a3 b1 b2 b3 hwf hs
  exact ⟨fun hd h1 h2 h3 => ha hd h1 h2 h3 na, fun hd h1 h2 h3 => hb hd h1 h2 h3 nb⟩

/-! ### non-vacuity: a concrete two-endpoint run meeting every hypothesis and delivering a bundle -/

namespace Example
def cfgA : Cfg := { passive := false, segInit := 2, segMru := 100 }
def cfgB : Cfg := { passive := true, segInit := 5, segMru := 100 }
/-- contact and session negotiation cut across reads and partial writes, then a 3-octet bundle in
    two segments (segment size 2), acknowledged -/
def sched : List SysEv := [
  .atA (.pump 10240), .deliverB 4, .deliverB 10, .atB (.pump 3), .atB (.pump 10240), .deliverA 100,
  .atA (.pump 10240), .deliverB 7, .deliverB 100, .atB (.pump 10240), .deliverA 100,
  .atA (.send [1, 2, 3]), .atA .procQueue, .atA (.pump 30), .atA .procQueue, .atA (.pump 10240),
  .deliverB 50, .deliverB 100, .atB (.pump 10240), .deliverA 100]

instance (s : Sys) : Decidable (SysWF s) := by unfold SysWF; infer_instance

example : (List.range (sched.length + 1)).all
    (fun k => decide (SysWF (runSys (initSys cfgA cfgB) (sched.take k)))) = true := by decide +kernel
example : (runSys (initSys cfgA cfgB) sched).b.rxLog = [(1, [1, 2, 3])]
    ∧ (runSys (initSys cfgA cfgB) sched).a.successLog = [1]
    ∧ (runSys (initSys cfgA cfgB) sched).a.sendLog.map (·.data) = [[1, 2, 3]] := by decide +kernel
instance (w r : Ep) (p : Bytes) : Decidable (Drained w r p) :=
  decidable_of_iff (w.closed = false ∧ r.closed = false ∧ w.inTerm = false ∧ w.txBuf = [] ∧ w.connBuf = []
      ∧ p = [] ∧ w.pqSources = 0)
    ⟨fun ⟨a, b, c, d, e, f, g⟩ => ⟨a, b, c, d, e, f, g⟩, fun h => ⟨h.1, h.2, h.3, h.4, h.5, h.6, h.7⟩⟩
/-- after one more firing of A's idle source the direction A → B is drained: the premise of
    `C01_quiescent_delivery` is satisfiable (and its conclusion visible) -/
example : let s := runSys (initSys cfgA cfgB) (sched ++ [.atA .procQueue])
    Drained s.a s.b s.toB ∧ s.b.rxLog = s.a.sendLog.map (fun it => (it.tid, it.data)) ∧ s.a.successLog = [1] := by
  decide +kernel
/-- … and the further premises of `C01_quiescent_success` hold there too -/
example : let s := runSys (initSys cfgA cfgB) (sched ++ [.atA .procQueue])
    s.b.txBuf = [] ∧ s.b.connBuf = [] ∧ s.toA = [] ∧ (s.a.emitted.all fun m => !m.isRej) = true ∧ s.a.txMap = [] := by
  decide +kernel
end Example

end Tcpcl
end DtnVerif
