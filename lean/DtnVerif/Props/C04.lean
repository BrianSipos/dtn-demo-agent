/-
  C04 — TCPCL endpoints only emit RFC 9174-legal message sequences.
  `Legal` (Model/TcpclSpec) is the sequence automaton written from RFC 9174: contact header, then
  SESS_INIT, then only XFER_SEGMENT/XFER_ACK/XFER_REFUSE/KEEPALIVE/MSG_REJECT, at most one SESS_TERM
  and no START after it; segments of a transfer contiguous, START carries the total length, END only
  on the last, transfer ids strictly increasing.
-/
import DtnVerif.Lemmas.TcpclSys
import DtnVerif.Lemmas.TcpclSysLift
import DtnVerif.Lemmas.TcpclEcho
import DtnVerif.Lemmas.TcpclAckSeqInv
import DtnVerif.Generated.Facts
namespace DtnVerif
namespace Tcpcl

theorem C04_facts :
    Facts.enum_tcpcl_SessionTerm_Flag_REPLY = 1
    ∧ Facts.enum_tcpcl_TransferSegment_Flag_END = (flagEnd : Int)
    ∧ Facts.enum_tcpcl_TransferSegment_Flag_START = (flagStart : Int)
    ∧ Facts.enum_tcpcl_SessionTerm_Reason_IDLE_TIMEOUT = 1
    ∧ Facts.enum_tcpcl_RejectMsg_Reason_UNEXPECTED = (rejUnexpected : Int)
    ∧ (Facts.binds.filter (fun b => b.1 == "MessageHead" && b.2.2.1 == "msg_id")).map (fun b => b.2.2.2)
        = [(tXferSegment : Int), tXferAck, tXferRefuse, tKeepalive, tSessTerm, tMsgReject, tSessInit] := by
  decide

/-- **One endpoint, assume–guarantee.** Under any schedule, if the sequence the peer has sent is legal,
    contains no XFER_REFUSE and announces a positive segment MRU, then the sequence this endpoint has
    emitted is legal. -/
theorem C04_legal (cfg : Cfg) (evs : List Ev) (h1 : 0 < cfg.segInit) (h2 : cfg.privExt = false)
    (hsend : ∀ d, Ev.send d ∈ evs → d.length < 2 ^ 64)
    (hleg : Legal (runEp (started cfg) evs).processed)
    (hok : ∀ m ∈ (runEp (started cfg) evs).processed, okMsg m) :
    Legal (runEp (started cfg) evs).emitted := by
  obtain ⟨P, hP⟩ := txInv_started_run cfg evs h1 h2 hsend hleg hok
  exact hP.legal

/-- **Two endpoints, unconditional in the peer.** For every schedule of the two-endpoint system both
    directions of the connection carry legal sequences (the peer assumptions of `C04_legal` are
    discharged mutually, by induction over the schedule). -/
theorem C04_legal_sys (cfgA cfgB : Cfg) (sch : List SysEv)
    (a1 : 0 < cfgA.segInit) (a2 : cfgA.privExt = false) (a3 : 0 < cfgA.segMru)
    (b1 : 0 < cfgB.segInit) (b2 : cfgB.privExt = false) (b3 : 0 < cfgB.segMru)
    (hwf : ∀ pre, pre <+: sch → SysWF (runSys (initSys cfgA cfgB) pre))
    (hs : ∀ ev ∈ sch, ev.sendOK) :
    Legal (runSys (initSys cfgA cfgB) sch).a.emitted ∧ Legal (runSys (initSys cfgA cfgB) sch).b.emitted := by
  have hi := (reach cfgA cfgB sch a1 a2 a3 b1 b2 b3 hwf hs).1
  exact ⟨emitted_legal hi.ia, emitted_legal hi.ib⟩

/-- **The statement is about the wire.** The octets written to the socket are a prefix of the
    encoding of the emitted sequence (both buffers and every partial write accounted for), and what the
    peer's framing layer hands over is a prefix of that sequence. -/
theorem C04_wire_sys (cfgA cfgB : Cfg) (sch : List SysEv)
    (a1 : 0 < cfgA.segInit) (a2 : cfgA.privExt = false) (a3 : 0 < cfgA.segMru)
    (b1 : 0 < cfgB.segInit) (b2 : cfgB.privExt = false) (b3 : 0 < cfgB.segMru)
    (hwf : ∀ pre, pre <+: sch → SysWF (runSys (initSys cfgA cfgB) pre))
    (hs : ∀ ev ∈ sch, ev.sendOK) :
    let s := runSys (initSys cfgA cfgB) sch
    s.a.accepted <+: encodeAll s.a.emitted ∧ s.b.accepted <+: encodeAll s.b.emitted
      ∧ s.b.processed <+: s.a.emitted ∧ s.a.processed <+: s.b.emitted := by
  obtain ⟨hi, -, t⟩ := reach cfgA cfgB sch a1 a2 a3 b1 b2 b3 hwf hs
  exact ⟨hi.ia.pump.accepted_prefix, hi.ib.pump.accepted_prefix, t⟩

/-- The implementation never emits XFER_REFUSE, its SESS_INIT announces the configured MRU and keepalive
    interval, and it sends a KEEPALIVE only if its configured keepalive interval is positive. -/
theorem C04_emit_shape (cfg : Cfg) (evs : List Ev) :
    ∀ m ∈ (runEp { cfg := cfg } evs).emitted, emitOK cfg m := by
  have h := emitInv_run evs _ (emitInv_init cfg) (by constructor <;> (intro h; cases h)) (kc_init cfg)
  have hc : (runEp { cfg := cfg } evs).cfg = cfg :=
    run_inv (P := fun e => e.cfg = cfg) (fun e ev he => (cfg_step e ev).trans he) evs _ rfl
  intro m hm
  have := h m hm
  rwa [hc] at this

/-- non-vacuity: the emitted sequences of the concrete run of `Props/C01` are non-trivial and legal -/
example : Legal [.contact 0, .sessInit 0 100 sizeMax [] [],
    .xferSegment 2 1 (encExtItem ⟨0, 1, u64 3⟩) [1, 2], .xferSegment 1 1 [] [3], .keepalive,
    .sessTerm 0 0] := by decide +kernel
example : ¬ Legal [.contact 0, .sessInit 0 100 sizeMax [] [],
    .xferSegment 2 1 (encExtItem ⟨0, 1, u64 3⟩) [1, 2], .xferSegment 3 2 (encExtItem ⟨0, 1, u64 1⟩) [9]] := by
  decide +kernel

/-- **No segment exceeds the peer's announced segment MRU**, for every schedule of the two-endpoint
    system, whatever the segment-size controller does (its output is an arbitrary integer event). -/
theorem C04_seg_le_mru_sys (cfgA cfgB : Cfg) (sch : List SysEv)
    (a1 : 0 < cfgA.segInit) (a2 : cfgA.privExt = false) (a3 : 0 < cfgA.segMru)
    (b1 : 0 < cfgB.segInit) (b2 : cfgB.privExt = false) (b3 : 0 < cfgB.segMru)
    (hwf : ∀ pre, pre <+: sch → SysWF (runSys (initSys cfgA cfgB) pre))
    (hs : ∀ ev ∈ sch, ev.sendOK) :
    let s := runSys (initSys cfgA cfgB) sch
    (∀ p, s.a.peerInit = some p → ∀ m ∈ s.a.emitted, segLen m ≤ p.segMru)
    ∧ (∀ p, s.b.peerInit = some p → ∀ m ∈ s.b.emitted, segLen m ≤ p.segMru) := by
  have hi := (reach cfgA cfgB sch a1 a2 a3 b1 b2 b3 hwf hs).1
  exact ⟨hi.ia.seg_le_mru, hi.ib.seg_le_mru⟩

/-- **Each XFER_ACK echoes the segment it answers**, against any peer and any schedule: for every
    XFER_ACK(flags, id, length) the endpoint has emitted there is a point `p ++ [m]` of the message
    sequence it processed such that `m` is a segment with the same flags and id which the ideal
    receiver accepts after `p`, and `length` is the cumulative length of that transfer after `m`. -/
theorem C04_ack_echo (cfg : Cfg) (evs : List Ev) :
    ∀ a ∈ (runEp { cfg := cfg } evs).emitted, echoOK (runEp { cfg := cfg } evs).processed a :=
  echoInv_run evs _ (rxInv_init cfg) (echoInv_init cfg)

/-- what `ackOfStep` says, spelled out: flags and id are the segment's, the length is cumulative -/
theorem C04_ack_echo_shape (s : RxSpec) (m a : Msg) (h : ackOfStep s m = some a) :
    ∃ flags tid ext data d, m = .xferSegment flags tid ext data ∧ a = .xferAck flags tid (d ++ data).length
      ∧ (hasStart flags = true → d = []) ∧ (hasStart flags = false → s.cur = some (tid, d)) := by
  cases m with
  | xferSegment flags tid ext data =>
    simp only [ackOfStep] at h
    split at h
    · simp at h
    · by_cases hst : hasStart flags = true
      · simp only [hst, if_true, Option.some.injEq] at h
        exact ⟨flags, tid, ext, data, [], rfl, h.symm, fun _ => rfl, fun hf => by simp [hst] at hf⟩
      · have hst' : hasStart flags = false := by simpa using hst
        simp only [hst', Bool.false_eq_true, if_false] at h
        cases hc : s.cur with
        | none => simp [hc] at h
        | some p =>
          obtain ⟨t, d⟩ := p
          simp only [hc] at h
          by_cases ht : (t == tid) = true
          · simp only [ht, if_true, Option.some.injEq] at h
            have : t = tid := by simpa using ht
            subst this
            exact ⟨flags, t, ext, data, d, rfl, h.symm, fun hf => by simp [hst'] at hf, fun _ => rfl⟩
          · simp [ht] at h
  | _ => simp [ackOfStep] at h

/-- the same in the two-endpoint system: every XFER_ACK B has emitted answers a segment that A emitted
    (at a position of A's emitted sequence), and symmetrically. -/
theorem C04_ack_echo_sys (cfgA cfgB : Cfg) (sch : List SysEv)
    (a1 : 0 < cfgA.segInit) (a2 : cfgA.privExt = false) (a3 : 0 < cfgA.segMru)
    (b1 : 0 < cfgB.segInit) (b2 : cfgB.privExt = false) (b3 : 0 < cfgB.segMru)
    (hwf : ∀ pre, pre <+: sch → SysWF (runSys (initSys cfgA cfgB) pre))
    (hs : ∀ ev ∈ sch, ev.sendOK) :
    let s := runSys (initSys cfgA cfgB) sch
    (∀ x ∈ s.b.emitted, echoOK s.a.emitted x) ∧ (∀ x ∈ s.a.emitted, echoOK s.b.emitted x) := by
  obtain ⟨-, -, tB, tA⟩ := reach cfgA cfgB sch a1 a2 a3 b1 b2 b3 hwf hs
  have lift : ∀ {ps qs : List Msg} {x : Msg}, ps <+: qs → echoOK ps x → echoOK qs x := by
    intro ps qs x hpq h
    obtain ⟨t, rfl⟩ := hpq
    exact echoOK_mono t h
  have both := sys_lift_init (fun e => RxInv e ∧ EchoInv e)
    (fun e ev h => ⟨rxInv_step e ev h.1, echoInv_step e ev h.1 h.2⟩)
    (fun cfg => ⟨rxInv_init cfg, echoInv_init cfg⟩) cfgA cfgB sch
  exact ⟨fun x hx => lift tB (both.2.2 x hx), fun x hx => lift tA (both.1.2 x hx)⟩

/-- **One acknowledgement per accepted segment, in order.** Against any peer and any schedule, the
    XFER_ACK messages the endpoint has emitted are exactly — no more, no fewer, same order — the
    acknowledgements the ideal receiver owes for the message sequence it has processed: one per
    accepted segment, with that segment's flags and transfer id and the cumulative length so far. -/
theorem C04_ack_sequence (cfg : Cfg) (evs : List Ev) :
    acksOf (runEp { cfg := cfg } evs).emitted = specAcks (runEp { cfg := cfg } evs).processed :=
  ackSeq_run evs _ (rxInv_init cfg) (ackSeq_init cfg)

/-- the same at both endpoints of the two-endpoint system, where what is processed is a prefix of
    what the peer emitted (`C01_transport`) -/
theorem C04_ack_sequence_sys (cfgA cfgB : Cfg) (sch : List SysEv) :
    let s := runSys (initSys cfgA cfgB) sch
    acksOf s.a.emitted = specAcks s.a.processed ∧ acksOf s.b.emitted = specAcks s.b.processed := by
  intro s
  have both := sys_lift_init (fun e => RxInv e ∧ AckSeqInv e)
    (fun e ev h => ⟨rxInv_step e ev h.1, ackSeq_step e ev h.1 h.2⟩)
    (fun cfg => ⟨rxInv_init cfg, ackSeq_init cfg⟩) cfgA cfgB sch
  exact ⟨both.1.2, both.2.2⟩

/-- non-vacuity: a START segment, a foreign non-START segment (ignored), the END segment -/
example : specAcks [.contact 0, .sessInit 0 10 10 [] [], .xferSegment 2 5 [] [1, 2], .xferSegment 0 6 [] [9],
      .xferSegment 1 5 [] [3]]
    = [.xferAck 2 5 2, .xferAck 1 5 3] := by decide

end Tcpcl
end DtnVerif
