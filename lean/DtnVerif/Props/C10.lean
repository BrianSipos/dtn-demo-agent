/-
  C10 — the BP agent processes each received bundle at most once and routes by first match.
-/
import DtnVerif.Lemmas.AgentFwd
namespace DtnVerif
namespace Props
namespace C10
open Agent Bp

/-- Constants of the source the model relies on: the receive chain (orders and step methods)
    sorts to admin routing, static routing, reassembly, BCB, BIB, admin handling; the fragment
    flag bit. -/
theorem C10_facts :
    rxChain = [.adminRoute, .static, .reasm, .bcb, .bib, .adminHandle]
    ∧ (Facts.chainSteps.filter (fun s => s.1 == "rx_chain")).map (fun s => (s.2.1, s.2.2.2))
        = [(-1, "_rx_route"), (0, "_do_rx_step"), (10, "_reassemble"), (19, "_verify_bcb"), (20, "_verify_bib"),
           (30, "_recv_bundle")]
    ∧ Facts.enum_blocks_PrimaryBlock_Flag_IS_FRAGMENT = 1 := by
  exact ⟨rxChain_eq, by decide, by decide⟩

/-- Two bundles share an identity iff source, creation time and sequence number agree, both are
    fragments or both are not, and for fragments the offset and the length of the fragment's
    payload (BTSD of the block numbered 1) agree as well. -/
theorem C10_identity (p q : Primary) (bs cs : List Blk) :
    identOf p bs = identOf q cs ↔
      p.src = q.src ∧ p.ts.time = q.ts.time ∧ p.ts.seq = q.ts.seq
      ∧ isFragment p.flags = isFragment q.flags
      ∧ (isFragment p.flags = true → p.fragOff = q.fragOff ∧ pyldLen bs = pyldLen cs) := by
  unfold identOf
  cases hp : isFragment p.flags <;> cases hq : isFragment q.flags <;> simp [Ident.mk.injEq] <;> grind

example : identOf { src := .dtn [1], ts := ⟨5, 1⟩, flags := 1, fragOff := 0, totalLen := 9 } [{ c := { typeCode := 1, blockNum := 1, btsd := some [7, 7] } }]
        ≠ identOf { src := .dtn [1], ts := ⟨5, 1⟩, flags := 1, fragOff := 3, totalLen := 9 } [{ c := { typeCode := 1, blockNum := 1, btsd := some [7, 7] } }] := by decide
example : identOf { src := .dtn [1], ts := ⟨5, 1⟩, flags := 1, fragOff := 0, totalLen := 9 } [{ c := { typeCode := 1, blockNum := 1, btsd := some [7, 7] } }]
        ≠ identOf { src := .dtn [1], ts := ⟨5, 1⟩, flags := 1, fragOff := 0, totalLen := 9 } [{ c := { typeCode := 1, blockNum := 1, btsd := some [7] } }] := by decide
example : identOf { src := .dtn [1], ts := ⟨5, 1⟩, flags := 0, fragOff := 0, totalLen := 9 } []
        = identOf { src := .dtn [1], ts := ⟨5, 1⟩, flags := 4, fragOff := 3, totalLen := 7 } [{ c := { typeCode := 1, blockNum := 1 } }] := by decide

/-- `firstMatch` is the action of the first route whose match bit is set: there is an index
    with a set bit, all earlier bits are clear, and the action is the one at that index. -/
theorem C10_first_match (routes : List Action) (bits : List Bool) (a : Action)
    (hlen : bits.length = routes.length) :
    firstMatch routes bits = some a ↔
      ∃ i, bits[i]? = some true ∧ routes[i]? = some a ∧ ∀ j : Nat, j < i → bits[j]? = some false :=
  firstMatch_eq_some routes bits a

example : firstMatch [.delete, .forward, .deliver] [false, true, true] = some .forward := by decide

/-- A bundle that matches no receive route and is not addressed to the node's administrative
    endpoint is neither delivered nor forwarded (nor reported on), whatever the opaque steps
    would do: nothing at all is emitted. -/
theorem C10_no_route_nothing (cfg : Cfg) (st : St) (now : Nat) (rx : RxBundle)
    (hacc : accepted cfg st rx) (hd : rx.primary.dest ≠ cfg.nodeId)
    (hm : firstMatch cfg.rxRoutes rx.routeBits = none) :
    (recvBundle cfg st now rx).2 = [] := by
  rw [recv_static cfg st now rx hacc hd, hm, dispose_eff]
  simp [hasAct_record, hasAct_nil]

example : (recvBundle { nodeId := .dtn [1], rxRoutes := [.deliver] } {} 5
    { primary := { dest := .dtn [2], src := .dtn [3], ts := ⟨4, 0⟩ }, blocks := [], routeBits := [false] }).2 = [] := by
  decide

/-- A route naming a string that is none of deliver / forward / delete has no effect either. -/
theorem C10_other_action_nothing (cfg : Cfg) (st : St) (now : Nat) (rx : RxBundle) (t : Nat)
    (hacc : accepted cfg st rx) (hd : rx.primary.dest ≠ cfg.nodeId)
    (hm : firstMatch cfg.rxRoutes rx.routeBits = some (.other t)) :
    (recvBundle cfg st now rx).2 = [] := by
  rw [recv_static cfg st now rx hacc hd, hm, dispose_eff]
  simp [chain_tail_no_deliver, hasAct_record, hasAct_nil]

/-- First-match routing, action `forward`: the bundle is queued for forwarding, exactly that. -/
theorem C10_first_match_forward (cfg : Cfg) (st : St) (now : Nat) (rx : RxBundle)
    (hacc : accepted cfg st rx) (hd : rx.primary.dest ≠ cfg.nodeId)
    (hm : firstMatch cfg.rxRoutes rx.routeBits = some .forward) :
    (recvBundle cfg st now rx).2 = [.queued (identOf rx.primary rx.blocks)] := by
  rw [recv_static cfg st now rx hacc hd, hm, dispose_eff]
  simp [chain_tail_no_deliver, hasAct_record, hasAct_nil, record_ident]
  rfl

/-- First-match routing, action `delete`: neither delivered nor queued (only the report, if one
    was requested). -/
theorem C10_first_match_delete (cfg : Cfg) (st : St) (now : Nat) (rx : RxBundle)
    (hacc : accepted cfg st rx) (hd : rx.primary.dest ≠ cfg.nodeId)
    (hm : firstMatch cfg.rxRoutes rx.routeBits = some .delete) :
    ∀ e ∈ (recvBundle cfg st now rx).2, ∃ i rep r, e = .report i rep r := by
  rw [recv_static cfg st now rx hacc hd, hm, dispose_eff]
  simp [chain_tail_no_deliver, hasAct_record, hasAct_nil]
  intro e he
  exact ⟨_, _, _, (finishEff_mem _ e (by simpa using he)).2⟩

/-- First-match routing, action `deliver`, for a whole (non-fragment) bundle that the security
    steps let pass: it is delivered, and not queued for forwarding. -/
theorem C10_first_match_deliver (cfg : Cfg) (st : St) (now : Nat) (rx : RxBundle)
    (hacc : accepted cfg st rx) (hd : rx.primary.dest ≠ cfg.nodeId)
    (hm : firstMatch cfg.rxRoutes rx.routeBits = some .deliver)
    (hf : isFragment rx.primary.flags = false) (hb : rx.bcb = .pass) (hi : rx.bib = .pass) :
    Effect.delivered (identOf rx.primary rx.blocks) ∈ (recvBundle cfg st now rx).2
    ∧ ∀ i, Effect.queued i ∉ (recvBundle cfg st now rx).2 := by
  apply recv_delivered cfg st now rx hacc
  rintro c rfl
  simp [rxChain_eq, runChain, runStep, secStep, hasAct_record, hasAct_nil, record_primary, hd, hf, hb, hi, hm]

/-- A bundle addressed to the node's own administrative endpoint is delivered whatever the
    routing table says (whole bundle, security steps pass, the record handler does not delete). -/
theorem C10_admin_delivered (cfg : Cfg) (st : St) (now : Nat) (rx : RxBundle)
    (hacc : accepted cfg st rx) (hd : rx.primary.dest = cfg.nodeId)
    (hf : isFragment rx.primary.flags = false) (hb : rx.bcb = .pass) (hi : rx.bib = .pass)
    (ha : rx.adm ≠ .delete) :
    Effect.delivered (identOf rx.primary rx.blocks) ∈ (recvBundle cfg st now rx).2
    ∧ ∀ i, Effect.queued i ∉ (recvBundle cfg st now rx).2 := by
  apply recv_delivered cfg st now rx hacc
  rintro c rfl
  cases hadm : rx.adm <;>
    simp_all [rxChain_eq, runChain, runStep, secStep, hasAct_record, hasAct_nil, record_primary]

example : Effect.delivered (identOf { src := .dtn [3], ts := ⟨4, 0⟩ } []) ∈
    (recvBundle { nodeId := .dtn [1], rxRoutes := [.forward] } {} 5
      { primary := { dest := .dtn [1], src := .dtn [3], ts := ⟨4, 0⟩ }, blocks := [], routeBits := [true] }).2 := by
  decide

/-- **At most once.** Over ANY history of events (receptions in any order with repeats,
    fragments and look-alikes, interleaved with idle forwarding / report sending), and for every
    identity `id`: the bundle is delivered at most once and accepted for forwarding at most once;
    and never when the identity was already in the seen set. -/
theorem C10_at_most_once (cfg : Cfg) (st : St) (evs : List Ev) (id : Ident) :
    (run cfg st evs).2.count (.delivered id) ≤ 1
    ∧ (run cfg st evs).2.count (.queued id) ≤ 1
    ∧ (id ∈ st.seen → (run cfg st evs).2.count (.delivered id) = 0
                      ∧ (run cfg st evs).2.count (.queued id) = 0) := by
  have a := run_dq cfg evs st id (.delivered id) (Or.inl rfl)
  have b := run_dq cfg evs st id (.queued id) (Or.inr rfl)
  exact ⟨a.1, b.1, fun h => ⟨a.2 h, b.2 h⟩⟩

/-- Each reception schedules at most one status report, and it is about the received bundle;
    a repeat, an own-source bundle or a CRC failure schedules none (`C10_repeat_ignored`, …). -/
theorem C10_recv_report_once (cfg : Cfg) (st : St) (now : Nat) (rx : RxBundle) :
    ((recvBundle cfg st now rx).2.filter isReport).length ≤ 1
    ∧ ∀ i p r, Effect.report i p r ∈ (recvBundle cfg st now rx).2 → i = identOf rx.primary rx.blocks := by
  rcases recv_cases cfg st now rx with h | ⟨_, c, hc, _, h⟩
  · rw [h]; simp
  · rw [h, ← hc]
    exact ⟨Nat.le_trans (dispose_reports _ c).length_le (finishEff_length c),
      fun i p r hm => (dispose_report_mem _ c i p r hm).1⟩

/-- Forwarding is done once per queue entry: an idle `_do_fwd` takes one entry off the queue,
    hands at most one bundle to the convergence layer and schedules at most one report. -/
theorem C10_fwd_once (cfg : Cfg) (st : St) (now : Nat) (sp : SendParams) :
    ((doFwd cfg st now sp).2.filter isTx).length ≤ 1
    ∧ ((doFwd cfg st now sp).2.filter isReport).length ≤ 1
    ∧ (doFwd cfg st now sp).1.fwdQ = st.fwdQ.tail := by
  suffices h : ((doFwd cfg st now sp).2.filter isTx).length ≤ 1
      ∧ ((doFwd cfg st now sp).2.filter isReport).length ≤ 1 from ⟨h.1, h.2, (doFwd_state cfg st now sp).2⟩
  cases hq : st.fwdQ with
  | nil => rw [doFwd_nil cfg st now sp hq]; simp
  | cons c0 q =>
    rw [doFwd_cons cfg st now sp c0 q hq]
    simp only [List.filter_append, List.length_append, finishEff_filter, (fwdEnd_filter _ _ _).2,
      List.length_nil, Nat.add_zero, Nat.zero_add]
    exact ⟨(fwdEnd_filter _ _ _).1, finishEff_length _⟩

example :
    let cfg : Cfg := { nodeId := .dtn [1], rxRoutes := [.deliver] }
    let b : RxBundle := { primary := { dest := .dtn [2], src := .dtn [3], ts := ⟨4, 0⟩ }, blocks := [], routeBits := [true] }
    let own : RxBundle := { b with primary := { b.primary with src := .dtn [1] } }
    (run cfg {} [.recv 5 b, .recv 6 b, .recv 7 own]).2 = [.delivered (identOf b.primary b.blocks)] := by
  decide

/-- Repeats are ignored: a bundle whose identity has been seen causes no effect and no state
    change. -/
theorem C10_repeat_ignored (cfg : Cfg) (st : St) (now : Nat) (rx : RxBundle)
    (h : identOf rx.primary rx.blocks ∈ st.seen) : recvBundle cfg st now rx = (st, []) :=
  recv_not_accepted cfg st now rx fun a => a.2.2 h

/-- Bundles sourced by this node are ignored: no effect, no state change. -/
theorem C10_own_source_ignored (cfg : Cfg) (st : St) (now : Nat) (rx : RxBundle)
    (h : rx.primary.src = cfg.nodeId) : recvBundle cfg st now rx = (st, []) :=
  recv_not_accepted cfg st now rx fun a => a.2.1 h

/-- Bundles failing the CRC gate are ignored and leave no trace (not even in the seen set). -/
theorem C10_bad_crc_ignored (cfg : Cfg) (st : St) (now : Nat) (rx : RxBundle)
    (h : rx.crcOk = false) : recvBundle cfg st now rx = (st, []) :=
  recv_not_accepted cfg st now rx fun a => by simp [a.1] at h

/-- **The seen set only grows.** An identity seen once stays seen after ANY number of later
    events (receptions of any other bundles, idle forwards, report sends): the memory is never
    trimmed. -/
theorem C10_seen_never_forgotten (cfg : Cfg) (st : St) (evs : List Ev) (id : Ident)
    (h : id ∈ st.seen) : id ∈ (run cfg st evs).1.seen := by
  induction evs generalizing st with
  | nil => exact h
  | cons e es ih =>
    simp only [run]
    exact ih _ ((step_dq cfg st e id (.delivered id) (Or.inl rfl)).1 h)

/-- Hence a repeat of a bundle received at any earlier point of a history — however long the
    history in between — is refused: no effect, no state change. -/
theorem C10_repeat_refused_after_any_history (cfg : Cfg) (st : St) (now now' : Nat) (rx rx' : RxBundle)
    (evs : List Ev) (hacc : accepted cfg st rx)
    (hid : identOf rx'.primary rx'.blocks = identOf rx.primary rx.blocks) :
    recvBundle cfg (run cfg (recvBundle cfg st now rx).1 evs).1 now' rx'
      = ((run cfg (recvBundle cfg st now rx).1 evs).1, []) := by
  apply C10_repeat_ignored
  rw [hid]
  apply C10_seen_never_forgotten
  rw [recv_accepted cfg st now rx hacc, (dispose_frame _ _).1]
  exact List.mem_cons_self

/-- **A failed forward does not block later bundles.** Whatever happens to the head of the
    forwarding queue (no transmit route, no CL, fragmentation impossible, …) it leaves the queue;
    the next idle `_do_fwd` acts on the NEXT bundle, and with a matching transmit route hands that
    bundle — not the earlier one — to the convergence layer. -/
theorem C10_later_forward_not_blocked (cfg : Cfg) (st : St) (now now' : Nat) (sp sp' : SendParams)
    (c0 c1 : Ctr) (q : List Ctr) (hq : st.fwdQ = c0 :: c1 :: q)
    (hr : sp'.txBits.any id = true) (hcl : sp'.clOk = true)
    (hf : sp'.frag = .none ∨ sp'.frag = .raises) :
    (doFwd cfg st now sp).1.fwdQ = c1 :: q
    ∧ ∃ b, fwdOut cfg { (doFwd cfg st now sp).1 with fwdQ := q } now' sp' c1 = some b
        ∧ Effect.tx b.enc ∈ (doFwd cfg (doFwd cfg st now sp).1 now' sp').2
        ∧ ∀ d, Effect.tx d ∈ (doFwd cfg (doFwd cfg st now sp).1 now' sp').2 → d = b.enc := by
  have hq1 : (doFwd cfg st now sp).1.fwdQ = c1 :: q := by rw [(doFwd_state cfg st now sp).2, hq]; rfl
  obtain ⟨b, hb⟩ := fwdOut_isSome cfg { (doFwd cfg st now sp).1 with fwdQ := q } now' sp' c1 hr hcl hf
  refine ⟨hq1, b, hb, (doFwd_tx cfg _ now' sp' c1 q hq1 _).2 ⟨b, hb, rfl⟩, ?_⟩
  intro d hd
  obtain ⟨b', hb', rfl⟩ := (doFwd_tx cfg _ now' sp' c1 q hq1 d).1 hd
  rw [hb] at hb'
  cases hb'
  rfl

/-- **Finished once.** A bundle for the node's own endpoint that the administrative handler
    deletes while it still carries 'deliver' (an ACME record nobody expects) is finished by the
    'delete' branch alone: not delivered, not queued, at most one report. -/
theorem C10_admin_delete_finished_once (cfg : Cfg) (st : St) (now : Nat) (rx : RxBundle)
    (hacc : accepted cfg st rx) (hd : rx.primary.dest = cfg.nodeId)
    (hf : isFragment rx.primary.flags = false) (hb : rx.bcb = .pass) (hi : rx.bib = .pass)
    (ha : rx.adm = .delete) :
    (∀ i, Effect.delivered i ∉ (recvBundle cfg st now rx).2)
    ∧ (∀ i, Effect.queued i ∉ (recvBundle cfg st now rx).2)
    ∧ ((recvBundle cfg st now rx).2.filter isReport).length ≤ 1 := by
  have hdel : hasAct (runChain cfg rx now rxChain
      (({ primary := rx.primary, rptNone := rx.rptNone, blocks := rx.blocks } : Ctr).record .receive now)).actions
      .delete = true := by
    simp [rxChain_eq, runChain, runStep, secStep, hasAct_record, hasAct_nil, record_primary, hd, hf, hb, hi, ha]
  rw [recv_accepted cfg st now rx hacc, dispose_eff, if_pos hdel, (finishEff_filter _).2.2]
  exact ⟨fun i h => (nomatch (finishEff_mem _ _ h).2), fun i h => (nomatch (finishEff_mem _ _ h).2),
    finishEff_length _⟩

example : ∃ i rep rc, (recvBundle { nodeId := .dtn [1], rxRoutes := [] } {} 5
      { primary := { dest := .dtn [1], src := .dtn [3], rpt := .dtn [4], ts := ⟨4, 0⟩, flags := 0x60022 },
        blocks := [], adm := .delete }).2 = [.report i rep rc] := ⟨_, _, _, rfl⟩

def popped (cfg : Cfg) : St → List Ev → Nat
  | _, [] => 0
  | st, e :: es =>
    (match e with
      | .fwd _ _ => if st.fwdQ.isEmpty then 0 else 1
      | _ => 0) + popped cfg (step cfg st e).1 es

private theorem step_queue (cfg : Cfg) (st : St) (e : Ev) :
    (step cfg st e).1.fwdQ.length + popped cfg st [e]
      = st.fwdQ.length + ((step cfg st e).2.filter isQueued).length := by
  cases e with
  | recv now rx => exact clRecv_fwdQ_len cfg st now rx
  | fwd now sp =>
    simp only [step, popped, (doFwd_state cfg st now sp).2, plain_not_queued _ (doFwd_plain cfg st now sp)]
    cases st.fwdQ <;> rfl
  | sendRpt now sp =>
    simp only [step, popped, (sendReport_frame cfg st now sp).2,
      plain_not_queued _ (sendReport_plain cfg st now sp)]
    rfl

/-- **Every queued forward gets its own `_do_fwd`, under any arrival pattern.** Each `queued`
    effect stands for one entry appended to the forwarding queue together with one idle
    `_do_fwd` registration (the harness compares that registration with the real idle sources,
    bursts of back-to-back arrivals included); each idle `_do_fwd` takes exactly one entry off.
    So over ANY history: entries still queued + firings that found one = entries at the start +
    `queued` effects. With as many firings as registrations nothing stays behind. -/
theorem C10_queue_accounting (cfg : Cfg) (evs : List Ev) (st : St) :
    (run cfg st evs).1.fwdQ.length + popped cfg st evs
      = st.fwdQ.length + ((run cfg st evs).2.filter isQueued).length := by
  induction evs generalizing st with
  | nil => rfl
  | cons e es ih =>
    have h := step_queue cfg st e
    have ih' := ih (step cfg st e).1
    simp only [run, popped, List.filter_append, List.length_append] at h ⊢
    omega

example :
    let cfg : Cfg := { nodeId := .dtn [1], rxRoutes := [.forward] }
    let b (n : Nat) : RxBundle := { primary := { dest := .dtn [2], src := .dtn [3], ts := ⟨4, n⟩ },
                                    blocks := [{ c := { typeCode := 1, blockNum := 1 } }], routeBits := [true] }
    let sp : SendParams := { txBits := [true] }
    let r := run cfg {} [.recv 5 (b 0), .recv 5 (b 1), .recv 5 (b 2), .fwd 6 sp, .fwd 6 sp, .fwd 6 sp]
    r.1.fwdQ.length = 0 ∧ (r.2.filter isTx).length = 3 ∧ (r.2.filter isQueued).length = 3 := by
  decide

end C10
end Props
end DtnVerif
