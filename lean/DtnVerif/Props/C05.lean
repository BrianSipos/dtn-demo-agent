/-
  C05 — BP fragmentation keeps every fragment within the route MTU and loses nothing.
  Model: DtnVerif.Model.Frag (mirror of bp/app/fragment.py `_create` inside bp/agent.py `send_bundle`).
-/
import DtnVerif.Lemmas.Frag
import DtnVerif.Generated.Facts
namespace DtnVerif
namespace Props
open Bp Cbor Frag

/-- The properties are about the container as the transmit chain hands it to `_create`. -/
abbrev prepared (cfg : Cfg) (b : FBundle) : FBundle := prep cfg cfg.now b

/-- **C05_size.** Security policy off, CRC values of the width of their type; the request may be made
    as source or with `as_source=False` (forwarding), creation time 0 included: whenever `_create` fragments, every byte string handed to the CL for
    this send request — for all payload lengths, MTUs, CRC types and extension-block sets — has
    length ≤ MTU. (When it does not fragment see `C05_unchanged`, `C05_impossible_…`.) -/
theorem C05_size (cfg : Cfg) (hsec : cfg.secStep = id)
    (hcrc : ∀ t d, (cfg.crcFn t d).length = crcWidth t) (m : Nat) (b : FBundle) (hwf : CrcWf b)
    (fs : List FBundle)
    (hfs : create (some m) (prepared cfg b) = .frags fs) :
    ∀ out ∈ clOutputs cfg (some m) b, out.length ≤ m := by
  intro out hout
  by_cases hok : numsOk b = true ∧ crcTypesOk b = true
  · rw [clOutputs_ok _ _ _ hok.1 hok.2, hfs] at hout
    obtain ⟨f, hf, ho⟩ := List.mem_flatMap.1 hout
    obtain ⟨P, o, hP, _, hbud, rfl⟩ := mem_frags hfs hf
    have hfl := prep_filled cfg hsec cfg.now b hwf
    rw [resend_length cfg hsec hcrc (some m) _ (filled_fragAt _ _ _ _ _ _ hfl.1 hfl.2)
      (isFragment_setFragFlag _) out ho]
    exact fragAt_size_le m P _ _ o (prep_n1 cfg hsec _ b hok.1) (payload_some_mem hP) hbud
  · rw [clOutputs_bad _ _ _ hok] at hout
    cases hout

/-- **C05_head_ranges.** The head-size function of the model is CBOR's (RFC 8949 §3), all five
    ranges: arguments up to 23 in the initial octet, then 1, 2, 4 or 8 following octets — there is no
    3-octet argument, so a length of 65536 … 2^32−1 takes 5 octets, not 4. It is what
    `len(cbor2.dumps(payload_size))` measures and what every encoder lemma (`head_length`) uses. -/
theorem C05_head_ranges (n : Nat) :
    headLen n = (if n < 24 then 1 else if n < 256 then 2 else if n < 65536 then 3
                 else if n < 4294967296 then 5 else 9) ∧
    (∀ mt, (head mt n).length = headLen n) ∧ (∀ d : Bytes, d.length = n → (encBstr d).length = headLen n + n) := by
  refine ⟨rfl, fun mt => head_length mt n, ?_⟩
  intro d hd; rw [encBstr_length, hd]

example : headLen 23 = 1 ∧ headLen 24 = 2 ∧ headLen 255 = 2 ∧ headLen 256 = 3 ∧ headLen 65535 = 3 ∧
    headLen 65536 = 5 ∧ headLen 16777215 = 5 ∧ headLen 4294967295 = 5 ∧ headLen 4294967296 = 9 := by decide

example (d : Bytes) (h : d.length = 65536) : (encBstr d).length = 65541 := by
  rw [encBstr_length, h]; decide

/-- **C05_fragment_size (per fragment, every payload length).** For every fragment the loop builds —
    any total payload length, any offset, any MTU, any CRC types and block set —: its encoded size is
    exactly the size of the empty fragment, minus the one-octet empty string, plus the CBOR head of
    the fragment's OWN payload length, plus that payload; and because that payload is no longer than
    the total, its head is no larger than `head(total)` which the budget reserves
    (`headLen_mono`, all five ranges), so the fragment is within the MTU. The reserve is tight: a
    fragment that fills its budget with a payload whose head equals `head(total)` encodes to exactly
    the MTU — one octet less reserve and it would be MTU + 1. -/
theorem C05_fragment_size (m : Nat) (pdata : Bytes) (p : Primary) (bs : List Blk) (o : Nat)
    (h1 : n1 bs ≤ 1) (hp : ∃ x ∈ bs, x.c.blockNum = 1)
    (hb : (emptyFrag p bs o pdata.length).size - 1 + headLen pdata.length < m) :
    let f := fragAt m (headLen pdata.length) pdata p bs o
    f.size + 1 = (emptyFrag p bs o pdata.length).size + headLen (pdataOf f).length + (pdataOf f).length ∧
    headLen (pdataOf f).length ≤ headLen pdata.length ∧
    f.size ≤ m ∧
    ((pdataOf f).length = budget m (headLen pdata.length) pdata p bs o →
      headLen (pdataOf f).length = headLen pdata.length → f.size = m) := by
  dsimp only
  have heq := fragAt_size_eq m (headLen pdata.length) pdata p bs o h1 hp
  have he := size_eq (emptyFrag p bs o pdata.length)
  refine ⟨heq, headLen_mono ?_, fragAt_size_le m pdata p bs o h1 hp hb, fun hfull hhead => ?_⟩
  · rw [pdataOf_fragAt m _ pdata p bs o hp]
    exact (take_drop_length_le pdata o _).2
  · rw [hhead, hfull, budget] at heq
    omega

def cfgW : Cfg :=
  { crcFn := fun t _ => zeros (crcWidth t), secStep := id, now := some ⟨1, 0⟩, reroute := true }

def bytesUpTo (n : Nat) : Bytes := (List.range n).map UInt8.ofNat

/-- harness: `c05.WITNESS` -/
def witness : FBundle :=
  { primary := { dest := .dtn "//d/".toUTF8.toList, src := .dtn "//s/".toUTF8.toList, ts := ⟨1, 0⟩, lifetime := 1000 },
    blocks := [{ c := { typeCode := 1, blockNum := 1, btsd := some (bytesUpTo 64) } }] }

/-- the same bundle as built by decoding it from the wire: the payload block carries a scapy layer -/
def witnessWire : FBundle :=
  { witness with blocks := [{ c := { typeCode := 1, blockNum := 1, btsd := some (bytesUpTo 64) },
                              layer := some (bytesUpTo 64) }] }

def exB : FBundle :=
  { primary := { crcType := 2, dest := .dtn "//d/".toUTF8.toList, src := .dtn "//s/".toUTF8.toList, ts := ⟨1, 0⟩, lifetime := 1000 },
    blocks := [{ c := { typeCode := 7, blockNum := 2, flags := 1, btsd := some [5] } },
               { c := { typeCode := 192, blockNum := 3, crcType := 1, btsd := some [1, 2, 3] } },
               { c := { typeCode := 1, blockNum := 1, crcType := 2, btsd := some (bytesUpTo 64) } }] }

def isFrags : CreateRes → Bool
  | .frags _ => true
  | _ => false

private theorem frags_of_isFrags {r : CreateRes} (h : isFrags r = true) : ∃ fs, r = .frags fs := by
  cases r <;> simp_all [isFrags]

private theorem clOutputs_exB_90 : (clOutputs cfgW (some 90) exB).map List.length = [89, 90, 65] := by
  decide +kernel

example : isFrags (create (some 90) (prepared cfgW exB)) = true
    ∧ (clOutputs cfgW (some 90) exB).map List.length = [89, 90, 65]
    ∧ (∀ t d, (cfgW.crcFn t d).length = crcWidth t) ∧ numsOk exB = true :=
  ⟨by decide +kernel, clOutputs_exB_90, fun t d => zeros_length _, by decide +kernel⟩

/-- **C05_tiling.** Whenever `_create` fragments: the fragments' payloads, in order, concatenate to
    the original payload, their offsets are contiguous from 0, every fragment is non-empty and
    carries the original payload length as total length. -/
theorem C05_tiling (m : Nat) (b2 : FBundle) (fs : List FBundle) (hfs : create (some m) b2 = .frags fs) :
    ∃ P, b2.payload = some P ∧ (fs.map pdataOf).flatten = P ∧ offsetsContiguous 0 fs ∧
      ∀ f ∈ fs, f.payload.isSome ∧ pdataOf f ≠ [] ∧ f.primary.totalLen = P.length := by
  obtain ⟨P, hP, hloop, rfl⟩ := create_frags hfs
  obtain ⟨t1, t2⟩ := createLoop_tiling m _ P b2.primary _ (payload_some_mem hP) P.length 0
    (by omega) hloop
  refine ⟨P, hP, by simpa using t1, t2, fun f hf => ?_⟩
  obtain ⟨P', o, hP', ho, hbud, rfl⟩ := mem_frags hfs hf
  cases hP.symm.trans hP'
  have := fragAt_nonempty m _ P b2.primary _ o (payload_some_mem hP) ho hbud
  exact ⟨this.1, this.2, rfl⟩

/-- **C05_fields.** Every fragment carries the original primary block — version, CRC type,
    destination, source (identity), report-to, creation timestamp (identity), lifetime — with the
    fragment flag set, its own offset and the total payload length. -/
theorem C05_fields (m : Nat) (b2 : FBundle) (fs : List FBundle) (hfs : create (some m) b2 = .frags fs) :
    ∀ f ∈ fs, f.primary.version = b2.primary.version ∧ f.primary.crcType = b2.primary.crcType ∧
      f.primary.dest = b2.primary.dest ∧ f.primary.src = b2.primary.src ∧ f.primary.rpt = b2.primary.rpt ∧
      f.primary.ts = b2.primary.ts ∧ f.primary.lifetime = b2.primary.lifetime ∧
      f.primary.flags = setFragFlag b2.primary.flags ∧ isFragment f.primary.flags = true ∧
      (∃ P, b2.payload = some P ∧ f.primary.totalLen = P.length) := by
  intro f hf
  obtain ⟨P, o, hP, _, _, rfl⟩ := mem_frags hfs hf
  exact ⟨rfl, rfl, rfl, rfl, rfl, rfl, rfl, rfl, isFragment_setFragFlag _, P, hP, rfl⟩

/-- **C05_forward_identity (fix eb817bd).** A request made with `as_source=False` (forwarding) is
    fragmented with the primary block as received: every fragment keeps the original source, creation
    timestamp — also when the creation time is 0 —, lifetime and report-to; and since fragments
    re-enter `send_bundle` with `as_source=False` too (`resend`), nothing replaces them later. -/
theorem C05_forward_identity (cfg : Cfg) (hsec : cfg.secStep = id) (hfwd : cfg.now = none) (m : Nat)
    (b : FBundle) (fs : List FBundle) (hfs : create (some m) (prepared cfg b) = .frags fs) :
    ∀ f ∈ fs, f.primary.src = b.primary.src ∧ f.primary.ts = b.primary.ts ∧
      f.primary.lifetime = b.primary.lifetime ∧ f.primary.rpt = b.primary.rpt ∧ f.primary.dest = b.primary.dest := by
  intro f hf
  obtain ⟨_, _, h3, h4, h5, h6, h7, _⟩ := C05_fields m _ fs hfs f hf
  have hp : (prepared cfg b).primary = fillPrimary b.primary := by
    rw [prep_primary cfg hsec, hfwd]; rfl
  rw [hp] at h3 h4 h5 h6 h7
  exact ⟨h4, h6, h7, h5, h3⟩

def fwdB : FBundle := { exB with primary := { exB.primary with ts := ⟨0, 7⟩, lifetime := 0 } }

def fragSummary : CreateRes → List (Nat × Nat × Nat × Nat)
  | .frags fs => fs.map (fun (f : FBundle) => (f.primary.ts.time, f.primary.ts.seq, f.primary.lifetime, f.primary.fragOff))
  | _ => []

example : fragSummary (create (some 90) (prepared { cfgW with now := none } fwdB))
    = [(0, 7, 0, 0), (0, 7, 0, 23), (0, 7, 0, 59)] := by decide +kernel

/-- **C05_blocks.** The block list of a fragment is exactly the selection of the container's blocks
    for its offset, with the payload data replaced by the fragment's part (`setPayload`: the payload
    block's scapy layer, if any, is dropped): all blocks when the
    offset is 0 (`C05_blocks_first`), otherwise those flagged replicate-in-fragment and the payload
    block (`C05_blocks_later`). -/
theorem C05_blocks (cfg : Cfg) (hsec : cfg.secStep = id) (m : Nat) (b : FBundle) (fs : List FBundle)
    (hfs : create (some m) (prepared cfg b) = .frags fs) :
    ∀ f ∈ fs, f.blocks = setPayload (pdataOf f) (selectBlocks f.primary.fragOff (prepared cfg b).blocks) := by
  intro f hf
  obtain ⟨P, o, hP, _, _, rfl⟩ := mem_frags hfs hf
  rw [pdataOf_fragAt _ _ _ _ _ _ (payload_some_mem hP), fragAt_blocks, prep_blocks cfg hsec, List.map_map,
    show fillBlk ∘ fillBlk = fillBlk from funext fillBlk_idem]
  rfl

theorem C05_blocks_first (bs : List Blk) : selectBlocks 0 bs = bs := selectBlocks_zero bs

theorem C05_blocks_later (o : Nat) (bs : List Blk) (x : Blk) :
    x ∈ selectBlocks (o + 1) bs ↔ x ∈ bs ∧ (replicate x.c.flags = true ∨ x.c.blockNum = 1) :=
  mem_selectBlocks_succ o bs x

example : (selectBlocks 12 (prepared cfgW exB).blocks).map (fun x => x.c.blockNum) = [2, 1] := by decide +kernel

/-- **C05_unchanged.** No MTU on the route, NO_FRAGMENT flag, already a fragment, or the bundle fits:
    what is handed to the CL is exactly what is handed over when the route has no MTU at all — one
    byte string, the encoding of the (prepared) input with refreshed CRCs. -/
theorem C05_unchanged (cfg : Cfg) (mtu : Option Nat) (b : FBundle)
    (h : mtu = none ∨ noFragment (prepared cfg b).primary.flags = true
      ∨ isFragment (prepared cfg b).primary.flags = true ∨ (∃ m, mtu = some m ∧ (prepared cfg b).size ≤ m)) :
    clOutputs cfg mtu b = clOutputs cfg none b ∧
      (numsOk b = true → crcTypesOk b = true → clOutputs cfg mtu b = [finalize cfg (prepared cfg b)]) := by
  have hskip : create mtu (prepared cfg b) = .skip := by
    rcases h with h | h | h | ⟨m, hm, hle⟩
    · subst h; rfl
    · cases mtu <;> simp [create, h]
    · exact create_of_isFragment _ _ h
    · subst hm
      have : ¬ m < (prepared cfg b).size := by omega
      simp [create, this]
  by_cases hok : numsOk b = true ∧ crcTypesOk b = true
  · have e : ∀ mtu', create mtu' (prep cfg cfg.now b) = .skip →
        clOutputs cfg mtu' b = [finalize cfg (prepared cfg b)] :=
      fun mtu' h => by rw [clOutputs_ok _ _ _ hok.1 hok.2, h]
    exact ⟨(e _ hskip).trans (e none rfl).symm, fun _ _ => e _ hskip⟩
  · exact ⟨by rw [clOutputs_bad _ _ _ hok, clOutputs_bad _ _ _ hok], fun h1 h2 => absurd ⟨h1, h2⟩ hok⟩

example : (prepared cfgW exB).size = 130 ∧ clOutputs cfgW (some 130) exB = clOutputs cfgW none exB
    ∧ (clOutputs cfgW (some 129) exB).map List.length = [129, 60] := by
  refine ⟨by decide +kernel, by decide +kernel, by decide +kernel⟩

/-- Exactly what reaches the CL when `_create` raises: nothing from this call when route and sender
    were cleared (the impossibility branches), the untouched input otherwise (KeyError/TypeError: no
    block number 1 / no payload data) — then whatever fragments had already been scheduled. -/
theorem C05_impossible_transmits (cfg : Cfg) (m : Nat) (b : FBundle) (hn : numsOk b = true)
    (hc : crcTypesOk b = true) (fs : List FBundle) (cleared : Bool)
    (hr : create (some m) (prepared cfg b) = .raised fs cleared) :
    clOutputs cfg (some m) b =
      (if cleared then [] else [finalize cfg (prepared cfg b)]) ++ fs.flatMap (resend cfg (some m)) := by
  rw [clOutputs_ok _ _ _ hn hc, hr]
  cases cleared <;> rfl

/-- **C05_impossible_sends_nothing (full strength since fix 9a18e3b).** For a bundle that has payload
    data: whenever `_create` raises — fragmentation is impossible — nothing at all is handed to the CL
    (and the container is not modified: `CreateRes.raised` carries no container, `_create` has no
    write access to it in the model, mirroring the removed `delfieldval`). -/
theorem C05_impossible_sends_nothing (cfg : Cfg) (hsec : cfg.secStep = id) (m : Nat) (b : FBundle)
    (hwf : CrcWf b) (P : Bytes) (hpay : (prepared cfg b).payload = some P)
    (fs : List FBundle) (cleared : Bool) (hr : create (some m) (prepared cfg b) = .raised fs cleared) :
    clOutputs cfg (some m) b = [] := by
  by_cases hok : numsOk b = true ∧ crcTypesOk b = true
  · obtain ⟨rfl, rfl⟩ := create_raised (prep_filled cfg hsec _ b hwf) (prep_n1 cfg hsec _ b hok.1) hpay hr
    rw [C05_impossible_transmits cfg m b hok.1 hok.2 [] true hr]
    rfl
  · exact clOutputs_bad _ _ _ hok

example : clOutputs cfgW (some 40) witness = [] ∧ create (some 40) (prepared cfgW witness) = .raised [] true
    ∧ (clOutputs cfgW (some 80) witnessWire).map List.length = [80, 62]
    ∧ (clOutputs cfgW none witness).map List.length = [100] := by
  refine ⟨by decide +kernel, by decide +kernel, by decide +kernel, by decide +kernel⟩

/-- **C05_sound (nothing altered or oversized, full strength).** Security off, bundle with payload
    data: every byte string handed to the CL is within the MTU, or it is the encoding of the input
    itself in one of the `C05_unchanged` cases. -/
theorem C05_sound (cfg : Cfg) (hsec : cfg.secStep = id)
    (hcrc : ∀ t d, (cfg.crcFn t d).length = crcWidth t) (m : Nat) (b : FBundle) (hwf : CrcWf b)
    (P : Bytes) (hpay : (prepared cfg b).payload = some P) :
    ∀ out ∈ clOutputs cfg (some m) b, out.length ≤ m ∨
      (out = finalize cfg (prepared cfg b) ∧ create (some m) (prepared cfg b) = .skip) := by
  intro out hout
  cases hcr : create (some m) (prepared cfg b) with
  | skip =>
    right
    by_cases hok : numsOk b = true ∧ crcTypesOk b = true
    · rw [clOutputs_ok _ _ _ hok.1 hok.2, hcr] at hout
      exact ⟨List.mem_singleton.1 hout, rfl⟩
    · rw [clOutputs_bad _ _ _ hok] at hout
      cases hout
  | frags fs => exact Or.inl (C05_size cfg hsec hcrc m b hwf fs hcr out hout)
  | raised fs c =>
    rw [C05_impossible_sends_nothing cfg hsec m b hwf P hpay fs c hcr] at hout
    simp at hout

/-- **C05_outputs (nothing is lost on the way to the CL).** When `_create` fragments and the route
    table resolves the fragments, the CL receives exactly one byte string per fragment, in order: the
    encoding of that fragment with refreshed CRC values. Together with `C05_tiling` this is "the
    payload ranges handed to the CL tile the payload". -/
theorem C05_outputs (cfg : Cfg) (hsec : cfg.secStep = id) (hre : cfg.reroute = true) (m : Nat) (b : FBundle)
    (hn : numsOk b = true) (hc : crcTypesOk b = true)
    (fs : List FBundle)
    (hfs : create (some m) (prepared cfg b) = .frags fs) :
    clOutputs cfg (some m) b = fs.map (fun f => finalize cfg (fillFields f)) := by
  rw [clOutputs_ok _ _ _ hn hc, hfs]
  have hall : ∀ f ∈ fs, resend cfg (some m) f = [finalize cfg (fillFields f)] := by
    intro f hf
    obtain ⟨P, o, _, _, _, rfl⟩ := mem_frags hfs hf
    exact resend_eq cfg hsec hre (some m) _ (numsOk_fragAt _ _ _ _ _ ((prep_numsOk cfg hsec _ b).trans hn))
      (crcTypesOk_fragAt _ _ _ _ _ ((prep_crcTypesOk cfg hsec _ b).trans hc)) (isFragment_setFragFlag _)
  show fs.flatMap _ = _
  rw [List.map_eq_flatMap, List.flatMap_def, List.flatMap_def, List.map_congr_left hall]

/-- **C05_feasible (when does `_create` raise?).** If the container has payload data — with or without
    a scapy layer on the payload block, i.e. locally built or decoded from the wire — and the code's
    own pre-check `orig − payload + 3·head ≤ MTU` passes, the loop never raises: the bundle is
    fragmented. So `_create` raises exactly when there is no payload block/data or the pre-check fails. -/
theorem C05_feasible (cfg : Cfg) (hsec : cfg.secStep = id) (m : Nat) (b : FBundle) (hwf : CrcWf b)
    (hn : numsOk b = true) (P : Bytes) (hpay : (prepared cfg b).payload = some P)
    (hbig : m < (prepared cfg b).size) (hnf : noFragment (prepared cfg b).primary.flags = false)
    (hfr : isFragment (prepared cfg b).primary.flags = false)
    (hpre : (prepared cfg b).size - P.length + 3 * headLen P.length ≤ m) :
    ∃ fs, create (some m) (prepared cfg b) = .frags fs :=
  ⟨_, create_of_precheck (prep_filled cfg hsec _ b hwf) (prep_n1 cfg hsec _ b hn) hpay hbig hnf hfr
    hpre⟩

/-- **C05_budget_lower_bound (the in-loop check `frag_size <= 0` is dead code).** Whenever the
    pre-check `orig − payload + 3·head(total) ≤ MTU` has passed, the budget of every fragment, at every
    offset, is at least `head(total)` ≥ 1 octets: `frag_size` is never 0 (nor negative), the loop
    advances by at least one octet per iteration and terminates. The smallest MTU at which a bundle is
    fragmented is therefore exactly `orig − payload + 3·head(total)`; one octet below, `_create`
    raises at the pre-check and nothing is sent (`C05_impossible_sends_nothing`). Whether the in-loop
    test reads `<= 0` or `< 0` cannot be observed. -/
theorem C05_budget_lower_bound (cfg : Cfg) (hsec : cfg.secStep = id) (m : Nat) (b : FBundle) (hwf : CrcWf b)
    (hn : numsOk b = true) (P : Bytes) (hpay : (prepared cfg b).payload = some P)
    (hfr : isFragment (prepared cfg b).primary.flags = false)
    (hpre : (prepared cfg b).size - P.length + 3 * headLen P.length ≤ m) :
    ∀ o, o < P.length →
      headLen P.length ≤ budget m (headLen P.length) P (prepared cfg b).primary (prepared cfg b).blocks o ∧
      0 < budget m (headLen P.length) P (prepared cfg b).primary (prepared cfg b).blocks o := by
  intro o ho
  obtain ⟨pb, hpb, hd⟩ := payload_eq_some.1 hpay
  have := emptyFrag_size_le (prepared cfg b) pb P o (prep_filled cfg hsec _ b hwf) hfr
    (prep_n1 cfg hsec _ b hn) hpb hd ho
  have hp := headLen_pos P.length
  have hs := size_eq (prepared cfg b)
  simp only [budget]
  omega

example : (prepared cfgW exB).size - 64 + 3 * headLen 64 = 72
    ∧ isFrags (create (some 72) (prepared cfgW exB)) = true
    ∧ (clOutputs cfgW (some 72) exB).all (fun o => decide (o.length ≤ 72)) = true
    ∧ create (some 71) (prepared cfgW exB) = .raised [] true ∧ clOutputs cfgW (some 71) exB = [] := by
  refine ⟨by decide +kernel, by decide +kernel, by decide +kernel, by decide +kernel, by decide +kernel⟩

example : ((payloadBlk (prepared cfgW exB).blocks).map (fun x => (x.c.btsd, x.layer))) = some (some (bytesUpTo 64), none)
    ∧ (prepared cfgW exB).size - 64 + 3 * headLen 64 ≤ 90 := by
  constructor <;> decide +kernel

/-- **C05_cl_failure.** A CL sender that raises — on any set of hand-overs — changes nothing of what is
    handed to the CL for the request: the byte strings are exactly those of the failure-free run, in
    the same order (every fragment is still created and handed over: none is lost, and the original is
    not handed over in their place). Hence `C05_size`, `C05_sound`, `C05_outputs`, `C05_tiling` hold
    verbatim for the failing run (`C05_cl_failure_size` spells out the size bound). The failure is
    visible only as escaped exceptions (`escaped`, `idleEscapes`). -/
theorem C05_cl_failure (cfg : Cfg) (fail : Nat → Bool) (mtu : Option Nat) (b : FBundle) :
    (sendFailing cfg fail mtu b).handed = clOutputs cfg mtu b := by
  simp only [sendFailing, clOutputs, runIdle_handed]

theorem C05_cl_failure_size (cfg : Cfg) (hsec : cfg.secStep = id)
    (hcrc : ∀ t d, (cfg.crcFn t d).length = crcWidth t) (fail : Nat → Bool) (m : Nat) (b : FBundle)
    (hwf : CrcWf b) (P : Bytes) (hpay : (prepared cfg b).payload = some P) :
    ∀ out ∈ (sendFailing cfg fail (some m) b).handed, out.length ≤ m ∨
      (out = finalize cfg (prepared cfg b) ∧ create (some m) (prepared cfg b) = .skip) := by
  rw [C05_cl_failure]
  exact C05_sound cfg hsec hcrc m b hwf P hpay

example : sendFailing cfgW (fun i => i == 1) (some 90) exB =
    { handed := clOutputs cfgW (some 90) exB, escaped := false, idleEscapes := [1] }
    ∧ (clOutputs cfgW (some 90) exB).map List.length = [89, 90, 65] :=
  ⟨by decide +kernel, clOutputs_exB_90⟩

/-- A security step in the style of `_apply_bib` (transmit chain order 10, before fragment creation at
    20). -/
def secGrow (b : FBundle) : FBundle :=
  let num := (b.blocks.map (fun x => x.c.blockNum)).foldl max 1 + 1
  { b with blocks := { c := { typeCode := 11, blockNum := num, btsd := some (zeros 73) } } :: b.blocks }

def cfgSec : Cfg := { cfgW with secStep := secGrow }

def ex300 : FBundle :=
  { primary := { crcType := 2, dest := .dtn "//d/".toUTF8.toList, src := .dtn "//s/".toUTF8.toList, ts := ⟨1, 0⟩, lifetime := 1000 },
    blocks := [{ c := { typeCode := 1, blockNum := 1, crcType := 2, btsd := some (zeros 300) } }] }

/-- **Full statement with the security policy on (does not hold — known finding D21).** `C05_size`
    without the hypothesis that the security steps are the identity. -/
def C05_size_security_statement : Prop :=
  ∀ (cfg : Cfg) (m : Nat) (b : FBundle) (fs : List FBundle),
    (∀ t d, (cfg.crcFn t d).length = crcWidth t) → CrcWf b →
    create (some m) (prepared cfg b) = .frags fs → ∀ out ∈ clOutputs cfg (some m) b, out.length ≤ m

/-- D21 in the model: with a step that adds a block, every fragment re-enters it through
    `send_bundle` (order 10 < 20) and leaves larger than the MTU the budget was computed for: route
    MTU 230, fragments of 309, 309 and 154 octets handed to the CL. (On the real code with an
    HMAC-256 BIB: 309, 309, 187.) -/
theorem C05_size_security_witness :
    isFrags (create (some 230) (prepared cfgSec ex300)) = true ∧
    (clOutputs cfgSec (some 230) ex300).map List.length = [309, 309, 154] := by
  constructor <;> decide +kernel

theorem C05_size_security_counterexample : ¬ C05_size_security_statement := by
  intro h
  obtain ⟨fs, hfs⟩ := frags_of_isFrags C05_size_security_witness.1
  have hwf : CrcWf ex300 := by
    refine ⟨Or.inr ⟨_, rfl, rfl⟩, ?_⟩
    intro x hx
    simp [fillFields, ex300] at hx
    subst hx
    exact Or.inr ⟨_, rfl, rfl⟩
  have hall : ∀ n ∈ (clOutputs cfgSec (some 230) ex300).map List.length, n ≤ 230 :=
    List.forall_mem_map.2 (h cfgSec 230 ex300 fs (fun t d => zeros_length _) hwf hfs)
  rw [C05_size_security_witness.2] at hall
  exact absurd (hall 309 List.mem_cons_self) (by decide)

def stepOrder (chain name : String) : Option Int :=
  (Facts.chainSteps.find? (fun s => s.1 == chain && s.2.2.1 == name)).map (fun s => s.2.1)

/-- Flag bits, payload block number/type and chain orders the model relies on. -/
theorem C05_facts :
    Facts.enum_blocks_PrimaryBlock_Flag_IS_FRAGMENT = 1 ∧
    Facts.enum_blocks_PrimaryBlock_Flag_NO_FRAGMENT = 4 ∧
    Facts.enum_blocks_CanonicalBlock_Flag_REPLICATE_IN_FRAGMENT = 1 ∧
    Facts.const_bundle_BLOCK_NUM_PAYLOAD = 1 ∧ Facts.const_bundle_BLOCK_TYPE_PAYLOAD = 1 ∧
    Facts.enum_blocks_AbstractBlock_CrcType_NONE = 0 ∧ Facts.enum_blocks_AbstractBlock_CrcType_CRC16 = 1 ∧
    Facts.enum_blocks_AbstractBlock_CrcType_CRC32 = 2 ∧
    stepOrder "tx_chain" "Static routing" = some 0 ∧
    stepOrder "tx_chain" "BPSec apply integrity" = some 10 ∧
    stepOrder "tx_chain" "BPSec apply confidentiality" = some 11 ∧
    stepOrder "tx_chain" "Fragment creation" = some 20 ∧
    (Facts.chainSteps.filter (fun s => s.1 == "tx_chain")).length = 4 := by
  decide

end Props
end DtnVerif
