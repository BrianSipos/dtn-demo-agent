/-
  C07 — TCPCL message framing is independent of how TCP chunks the stream.
-/
import DtnVerif.Lemmas.TcpclDecodeWF
import DtnVerif.Generated.Facts
namespace DtnVerif
namespace Tcpcl

/-- The constants and layouts of the source this model relies on (regenerated from /repo on every
    run): message type codes, contact magic/version binding, and the field order/width classes of
    every message. A change of any of them breaks one of these obligations. -/
theorem C07_facts_types :
    (Facts.binds.filter (fun b => b.1 == "MessageHead" && b.2.2.1 == "msg_id")).map
        (fun b => (b.2.1, b.2.2.2)) =
      [("TransferSegment", 1), ("TransferAck", 2), ("TransferRefuse", 3), ("Keepalive", 4),
       ("SessionTerm", 5), ("RejectMsg", 6), ("SessionInit", 7)] := by decide +kernel

theorem C07_facts_contact :
    Facts.const_contact_MAGIC_HEAD = magic
    ∧ (Facts.binds.filter (fun b => b.1 == "Head" && b.2.2.2 == 4)).map (fun b => b.2.1) = ["ContactV4"]
    ∧ Facts.layouts.lookup "contact.Head" =
        some [("StrFixedLenField", "magic", "length=4"), ("UInt8Field", "version", "")]
    ∧ Facts.layouts.lookup "contact.ContactV4" = some [("FlagsField", "flags", "size=8")] := by
  decide +kernel

theorem C07_facts_layouts :
    Facts.layouts.lookup "tcpcl.MessageHead" = some [("UInt8Field", "msg_id", "")]
    ∧ Facts.layouts.lookup "tcpcl.SessionInit" =
        some [("UInt16Field", "keepalive", ""), ("UInt64Field", "segment_mru", ""),
              ("UInt64Field", "transfer_mru", ""),
              ("UInt16FieldLenField", "nodeid_length", "length_of=nodeid_data"),
              ("StrLenFieldUtf8", "nodeid_data", ""),
              ("UInt32FieldLenField", "ext_size", "length_of=ext_items"),
              ("ExtensionListField", "ext_items", "pkt_cls=SessionExtendHeader")]
    ∧ Facts.layouts.lookup "tcpcl.SessionTerm" =
        some [("FlagsField", "flags", "size=8"), ("ByteEnumField", "reason", "")]
    ∧ Facts.layouts.lookup "tcpcl.RejectMsg" =
        some [("UInt8Field", "rej_msg_id", ""), ("ByteEnumField", "reason", "")]
    ∧ Facts.layouts.lookup "tcpcl.TransferAck" =
        some [("FlagsField", "flags", "size=8"), ("UInt64Field", "transfer_id", ""),
              ("UInt64Field", "length", "")]
    ∧ Facts.layouts.lookup "tcpcl.TransferRefuse" =
        some [("ByteEnumField", "reason", ""), ("UInt64Field", "transfer_id", "")]
    ∧ Facts.layouts.lookup "tcpcl.TlvHead" =
        some [("FlagsField", "flags", "size=8"), ("UInt16Field", "type", ""),
              ("UInt16PayloadLenField", "length", "")] := by
  refine ⟨?_, ?_, ?_, ?_, ?_, ?_, ?_⟩ <;> decide +kernel

theorem C07_facts_segment :
    Facts.layouts.lookup "tcpcl.TransferSegment" =
        some [("FlagsField", "flags", "size=8"), ("UInt64Field", "transfer_id", ""),
              ("UInt32FieldLenField", "ext_size",
                "if(lambda p: p.flags & TransferSegment.Flag.START) length_of=ext_items"),
              ("ExtensionListField", "ext_items",
                "if(lambda p: p.flags & TransferSegment.Flag.START) pkt_cls=TransferExtendHeader"),
              ("UInt64FieldLenField", "length", "length_of=data"), ("BlobField", "data", "")]
    ∧ Facts.enum_tcpcl_TransferSegment_Flag_END = 1 ∧ Facts.enum_tcpcl_TransferSegment_Flag_START = 2 := by
  decide +kernel

private theorem pb_seg : parseBody tXferSegment = pSegment := rfl
private theorem pb_ack : parseBody tXferAck = pAck := rfl
private theorem pb_refuse : parseBody tXferRefuse = pRefuse := rfl
private theorem pb_ka : parseBody tKeepalive = P.pure .keepalive := rfl
private theorem pb_term : parseBody tSessTerm = pTerm := rfl
private theorem pb_rej : parseBody tMsgReject = pReject := rfl
private theorem pb_init : parseBody tSessInit = pInit := rfl

private theorem parse_body (m : Msg) (r : Bytes) (hwf : m.WF) (hc : m.isContact = false) :
    parseBody m.type (m.body ++ r) = some (m, r) := by
  cases m with
  | contact f => cases hc
  | keepalive => exact congrFun pb_ka r
  | sessTerm flags reason =>
    simp only [Msg.type, pb_term, pTerm, Msg.body, List.append_assoc, bind_u8 hwf.1, bind_u8 hwf.2, P.pure]
  | msgReject rid reason =>
    simp only [Msg.type, pb_rej, pReject, Msg.body, List.append_assoc, bind_u8 hwf.1, bind_u8 hwf.2, P.pure]
  | xferRefuse reason tid =>
    simp only [Msg.type, pb_refuse, pRefuse, Msg.body, List.append_assoc, bind_u8 hwf.1,
      bind_u64 hwf.2, P.pure]
  | xferAck flags tid len =>
    simp only [Msg.type, pb_ack, pAck, Msg.body, List.append_assoc, bind_u8 hwf.1, bind_u64 hwf.2.1,
      bind_u64 hwf.2.2, P.pure]
  | sessInit ka sm xm node ext =>
    obtain ⟨h1, h2, h3, h4, h5⟩ := hwf
    simp only [Msg.type, pb_init, pInit, Msg.body, List.append_assoc, bind_u16 h1, bind_u64 h2,
      bind_u64 h3, bind_u16 h4, bind_u32 h5, bind_takeBytes_append, P.pure]
  | xferSegment flags tid ext data =>
    obtain ⟨h1, h2, h3, h4, h5⟩ := hwf
    simp only [Msg.type, pb_seg, pSegment, Msg.body, List.append_assoc, bind_u8 h1, bind_u64 h2]
    cases hs : hasStart flags with
    | true =>
      simp only [if_true, List.append_assoc, bind_u32 h3, bind_u64 h4, bind_takeBytes_append, P.pure]
    | false =>
      -- without START there is no extension list on the wire, and `WF` says the message has none
      obtain rfl := h5 hs
      simp only [Bool.false_eq_true, if_false, List.append_assoc, bind_u64 h4, bind_takeBytes_append, P.pure]

private theorem type_lt (m : Msg) : m.type < 256 := by
  cases m <;> simp only [Msg.type] <;> decide

private theorem known_type (m : Msg) (hc : m.isContact = false) : knownType m.type = true := by
  cases m <;> first | rfl | cases hc

private theorem encode_contact (f : Nat) (hf : f < 256) :
    encode (.contact f) = [0x64, 0x74, 0x6e, 0x21, 4, UInt8.ofNat f] := by
  simp [encode, Msg.body, magic, u8_eq 4 (by omega), u8_eq f hf]

private theorem encode_noncontact (m : Msg) (hc : m.isContact = false) :
    encode m = UInt8.ofNat m.type :: m.body := by
  rw [← List.singleton_append, ← u8_eq _ (type_lt m)]
  cases m <;> first | rfl | cases hc

/-- **Complete message ⇒ acted on, trailing octets kept.** Whatever follows a complete message in
    the buffer, the probe returns exactly that message and exactly its length. -/
theorem C07_probe_complete (m : Msg) (r : Bytes) (hwf : m.WF) :
    probe (!m.isContact) (encode m ++ r) = .got m (encode m).length := by
  cases hc : m.isContact with
  | true =>
    cases m with
    | contact f =>
      rw [encode_contact f hwf]
      simp [probe_false_cons5, magic, ofNat_toNat f hwf]
    | _ => cases hc
  | false =>
    rw [encode_noncontact m hc, Bool.not_false, List.cons_append,
      probe_true_known (by rw [ofNat_toNat _ (type_lt m)]; exact known_type m hc),
      ofNat_toNat _ (type_lt m), parse_body m r hwf hc]
    simp only [List.length_cons, List.length_append]
    congr 1; omega

/-- **A strict prefix of a message (or of the contact header) is left untouched.** -/
theorem C07_probe_prefix (m : Msg) (p : Bytes) (hwf : m.WF) (hp : p <+: encode m)
    (hne : p ≠ encode m) : probe (!m.isContact) p = .need := by
  have h := C07_probe_complete m [] hwf
  rw [List.append_nil] at h
  have hpre := (probe_got h).2.2.2 p
  rw [List.take_length] at hpre
  exact hpre hp hne

/-- **Stability of a decision already taken**: once the buffer holds a complete message, no
    further octet changes which message it is or how long it is (for *every* octet string, not only
    well-formed ones). -/
theorem C07_probe_mono (c : Bool) (b x : Bytes) (m : Msg) (n : Nat) (h : probe c b = .got m n) :
    probe c (b ++ x) = .got m n ∧ 0 < n ∧ n ≤ b.length :=
  ⟨(probe_got h).2.2.1 x, (probe_got h).1, (probe_got h).2.1⟩

/-- A contact header rejected for magic/version, or an unknown message type, stays rejected. -/
theorem C07_probe_bad_mono (c : Bool) (b x : Bytes) (h : probe c b = .bad) :
    probe c (b ++ x) = .bad :=
  probe_bad_append h x

/-- A receive state in which every complete message has already been handed over. -/
def Rx.Stable (rx : Rx) : Prop := drain rx = (rx, [])

theorem C07_feed_stable (rx : Rx) (c : Bytes) : (feed rx c).1.Stable := by
  unfold Rx.Stable
  cases hd : rx.dead with
  | true => rw [feed_dead rx c hd]; exact drain_dead rx hd
  | false => rw [feed_alive rx c hd]; exact drain_idem _

theorem C07_init_stable : ({} : Rx).Stable := drain_need _ (probe_nil _)

/-- **Split invariance.** For every receive state and *every* way of cutting the incoming octets
    into reads, the messages handed to the session layer, their order, the residual buffer and the
    phase are the same as if the octets had arrived in a single read. -/
theorem C07_split_invariance (rx : Rx) (hs : rx.Stable) (chunks : List Bytes) :
    feedAll rx chunks = feed rx chunks.flatten := by
  induction chunks generalizing rx with
  | nil => rw [List.flatten_nil, feed_nil]; exact hs.symm
  | cons c cs ih =>
    rw [feedAll_cons, ih _ (C07_feed_stable rx c), List.flatten_cons, feed_append]

/-- **Prefix property / "as soon as".** The messages handed over after any prefix of the stream
    are a prefix of those handed over after the whole stream: nothing is reordered, invented or
    retracted by later octets. -/
theorem C07_prefix_messages (rx : Rx) (p q : Bytes) :
    (feed rx p).2 <+: (feed rx (p ++ q)).2 := by
  rw [feed_append]
  exact List.prefix_append _ _

private theorem drain_encodeAll (ms : List Msg) (hall : ∀ m ∈ ms, m.WF ∧ m.isContact = false) :
    drain { inConn := true, buf := encodeAll ms, dead := false } =
      ({ inConn := true, buf := [], dead := false }, ms) := by
  induction ms with
  | nil => exact drain_need _ (probe_nil _)
  | cons m ms ih =>
    have ⟨hwf, hc⟩ := hall m (by simp)
    have hp := C07_probe_complete m (encodeAll ms) hwf
    simp only [hc, Bool.not_false] at hp
    rw [drain_got { inConn := true, buf := encodeAll (m :: ms), dead := false } rfl m _ hp]
    simp only [encodeAll, List.drop_left, Bool.true_or]
    rw [ih (fun m' hm' => hall m' (by simp [hm']))]

/-- **Whole-stream correctness.** A contact header followed by any sequence of well-formed
    messages, delivered in one read, is decoded to exactly those messages with nothing left in the
    buffer. Together with `C07_split_invariance` this holds for every chunking, and together with
    `C07_prefix_messages` each message is handed over no later than the read that contains its
    final octet. -/
theorem C07_stream (f : Nat) (hf : f < 256) (ms : List Msg)
    (hall : ∀ m ∈ ms, m.WF ∧ m.isContact = false) :
    feed {} (encodeAll (.contact f :: ms)) =
      ({ inConn := true, buf := [], dead := false }, .contact f :: ms) := by
  have hp := C07_probe_complete (.contact f) (encodeAll ms) hf
  simp only [Msg.isContact, Bool.not_true] at hp
  simp only [feed, Bool.false_eq_true, if_false, List.nil_append, encodeAll]
  rw [drain_got { inConn := false, buf := encode (.contact f) ++ encodeAll ms, dead := false } rfl _ _ hp]
  simp only [List.drop_left, Msg.isContact, Bool.or_true]
  rw [drain_encodeAll ms hall]

/-- Corollary for an arbitrary chunking of a valid stream. -/
theorem C07_stream_chunked (f : Nat) (hf : f < 256) (ms : List Msg)
    (hall : ∀ m ∈ ms, m.WF ∧ m.isContact = false) (chunks : List Bytes)
    (hc : chunks.flatten = encodeAll (.contact f :: ms)) :
    feedAll {} chunks = ({ inConn := true, buf := [], dead := false }, .contact f :: ms) := by
  rw [C07_split_invariance {} C07_init_stable chunks, hc]
  exact C07_stream f hf ms hall

/-- non-vacuity: a concrete stream (contact header, SESS_INIT, KEEPALIVE, XFER_SEGMENT with an
    extension item), cut inside the magic and inside a length field -/
example :
    feedAll {} [[0x64, 0x74], [0x6e, 0x21, 4, 1, 7, 0, 30], encode (.sessInit 30 100 200 [65] []) |>.drop 3,
                encode .keepalive ++ encode (.xferSegment 3 1 [0,0,1,0,8,0,0,0,0,0,0,0,2] [9, 9])]
      = ({ inConn := true, buf := [], dead := false },
         [.contact 1, .sessInit 30 100 200 [65] [], .keepalive,
          .xferSegment 3 1 [0,0,1,0,8,0,0,0,0,0,0,0,2] [9, 9]]) := by decide +kernel

/-! ### extension items (independent itemiser) -/

theorem C07_ext_roundtrip (items : List ExtItem)
    (hwf : ∀ e ∈ items, e.flags < 256 ∧ e.type < 65536 ∧ e.value.length < 65536) (fuel : Nat)
    (hfuel : items.length ≤ fuel) :
    decExtItems fuel (encExtItems items) = some items :=
  decExtItems_enc items hwf fuel hfuel

/-! ### the layouts of RFC 9174, written from the RFC (not from the code)

  §4.2 contact header; §4.6 SESS_INIT; §5.1.1 KEEPALIVE; §5.1.2 MSG_REJECT (reason code, then the
  rejected message header); §5.2.2 XFER_SEGMENT; §5.2.3 XFER_ACK; §5.2.4 XFER_REFUSE; §6.1 SESS_TERM. -/

def rfcEncode : Msg → Bytes
  | .contact flags => [0x64, 0x74, 0x6e, 0x21] ++ u8 4 ++ u8 flags
  | .sessInit ka sm xm node ext =>
      u8 7 ++ u16 ka ++ u64 sm ++ u64 xm ++ u16 node.length ++ node ++ u32 ext.length ++ ext
  | .sessTerm flags reason => u8 5 ++ u8 flags ++ u8 reason
  | .xferSegment flags tid ext data =>
      u8 1 ++ u8 flags ++ u64 tid
      ++ (if hasStart flags then u32 ext.length ++ ext else []) ++ u64 data.length ++ data
  | .xferAck flags tid len => u8 2 ++ u8 flags ++ u64 tid ++ u64 len
  | .xferRefuse reason tid => u8 3 ++ u8 reason ++ u64 tid
  | .keepalive => u8 4
  | .msgReject rejId reason => u8 6 ++ u8 reason ++ u8 rejId

def Msg.isReject : Msg → Bool
  | .msgReject .. => true
  | _ => false

/-- **Encoding conforms to RFC 9174** for every message except MSG_REJECT: the octets the
    implementation's encoder produces are the RFC's layout of the same fields (so an independent RFC
    decoder reads back the same fields, and by `C07_probe_complete` the implementation reads back what
    an independent RFC encoder wrote). -/
theorem C07_rfc_layout_partial (m : Msg) (h : m.isReject = false) : encode m = rfcEncode m := by
  cases m with
  | msgReject a b => simp [Msg.isReject] at h
  | xferSegment flags tid ext data =>
    simp only [encode, Msg.type, Msg.body, rfcEncode, tXferSegment]
    split <;> simp [List.append_assoc]
  | contact f => simp [encode, Msg.body, rfcEncode, magic]
  | sessInit ka sm xm node ext => simp [encode, Msg.type, Msg.body, rfcEncode, tSessInit, List.append_assoc]
  | sessTerm f r => simp [encode, Msg.type, Msg.body, rfcEncode, tSessTerm, List.append_assoc]
  | xferAck f t l => simp [encode, Msg.type, Msg.body, rfcEncode, tXferAck, List.append_assoc]
  | xferRefuse r t => simp [encode, Msg.type, Msg.body, rfcEncode, tXferRefuse, List.append_assoc]
  | keepalive => simp [encode, Msg.type, Msg.body, rfcEncode, tKeepalive]

/-- The full statement (every message type) is false of the code as it is: MSG_REJECT is encoded with
    the rejected message type *before* the reason code, the reverse of RFC 9174 §5.1.2 — known finding
    `C07:msg-reject-field-order` (the repository's own unit test pins the reversed octets, so the
    repair cannot be made without editing the test suite). -/
theorem C07_rfc_layout_counterexample : ¬ (∀ m : Msg, encode m = rfcEncode m) := by
  intro h
  have := h (.msgReject 1 3)
  revert this
  decide

/-- what the implementation does instead: the two fields are swapped -/
theorem C07_reject_swapped (rejId reason : Nat) :
    encode (.msgReject rejId reason) = rfcEncode (.msgReject reason rejId) := by
  simp [encode, Msg.type, Msg.body, rfcEncode, tMsgReject, List.append_assoc]

/-- **Whatever octets arrive, in whatever chunks, every message handed on has in-range fields** (type
    octet known, every number below the bound of its fixed-width field, data and extension lengths as
    announced, no extension list outside START), and the messages extracted from a stream carry no
    more data octets than the stream has: nothing is invented by the framing layer. For every octet
    string — well-formed, truncated, hostile. -/
theorem C07_decoded_wf (chunks : List Bytes) :
    (∀ m ∈ (feedAll {} chunks).2, m.WF) ∧ sumData (feedAll {} chunks).2 ≤ chunks.flatten.length := by
  rw [C07_split_invariance {} C07_init_stable]
  obtain ⟨h1, h2⟩ := feed_wf {} chunks.flatten
  have : ({} : Rx).buf.length = 0 := rfl
  exact ⟨h1, by omega⟩

end Tcpcl
end DtnVerif
