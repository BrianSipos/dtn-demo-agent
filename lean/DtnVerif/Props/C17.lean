/-
  C17 — TCPCL answers out-of-place peer messages without corrupting state.
  The peer is arbitrary here: events carry arbitrary octets, so every theorem quantified over event
  lists is a theorem against every adversarial peer and every history.
-/
import DtnVerif.Lemmas.TcpclEsc
import DtnVerif.Lemmas.TcpclRx
import DtnVerif.Lemmas.TcpclFrame
import DtnVerif.Lemmas.TcpclDecodeWF
import DtnVerif.Generated.Facts
namespace DtnVerif
namespace Tcpcl

theorem C17_facts :
    Facts.enum_tcpcl_RejectMsg_Reason_UNEXPECTED = (rejUnexpected : Int)
    ∧ Facts.enum_tcpcl_RejectMsg_Reason_UNKNOWN = (rejUnknown : Int) := by decide

/-- **No callback ever escapes with an exception** (private test extensions off): for every event
    list — every schedule, every octet string the peer may send, every user call — no step of the
    endpoint produces an `escaped` output. -/
theorem C17_no_escape (cfg : Cfg) (hp : cfg.privExt = false) (evs : List Ev) :
    ∀ os ∈ (run { cfg := cfg } evs).2, ∀ o ∈ os, ∀ w, o ≠ .escaped w := by
  intro os hos o ho w heq
  have h := esc_run evs { cfg := cfg } hp os hos
  unfold noEsc at h
  rw [List.all_eq_true] at h
  have := h o ho
  subst heq
  simp [Out.isEsc] at this

/-- **Nothing is ever assembled from mismatched transfers**: whatever the peer sends, the completed
    receptions are exactly those of the ideal receiver (a non-START segment extends only the open
    transfer with the same id; anything else leaves reassembly untouched). -/
theorem C17_rx_spec (cfg : Cfg) (evs : List Ev) :
    (runEp { cfg := cfg } evs).rxLog = deliver (runEp { cfg := cfg } evs).processed :=
  (rxInv_run evs _ (rxInv_init cfg)).1

/-- **The handlers only ever see in-range values**: whatever octets the peer sends and however they are
    chunked, every message handed to `recv_message` has every field below the bound of its wire field
    (lengths and transfer ids < 2^64, flags and reason codes < 256, …), and the data carried by all
    messages handled so far is no more than the octets received so far. -/
theorem C17_handled_wf (cfg : Cfg) (evs : List Ev) :
    (∀ m ∈ (runEp { cfg := cfg } evs).processed, m.WF)
    ∧ sumData (runEp { cfg := cfg } evs).processed ≤ (runEp { cfg := cfg } evs).rxBytes.length := by
  obtain ⟨-, hpre, -⟩ := frameInv_run evs _ (frameInv_init cfg)
  obtain ⟨w, l⟩ := feed_wf {} (runEp { cfg := cfg } evs).rxBytes
  refine ⟨fun m hm => w m (hpre.subset hm), ?_⟩
  obtain ⟨rest, hrest⟩ := hpre
  have : sumData (feed {} (runEp { cfg := cfg } evs).rxBytes).2
      = sumData (runEp { cfg := cfg } evs).processed + sumData rest := by rw [← hrest, sumData_append]
  have h0 : ({} : Rx).buf.length = 0 := rfl
  omega

def Ep.ownTx (e : Ep) := (e.txPendStart, e.txTmp, e.txPendAck, e.txMap, e.sendLog, e.txNextId, e.nStarted)

/-- **Response and isolation.** An out-of-place segment, ACK, refusal or SESS_TERM is answered with
    exactly one MSG_REJECT (reason "unexpected", naming the offending type); the endpoint's own
    transfers, its reassembly state and its open/closed state are untouched. -/
theorem C17_response (e : Ep) (m : Msg) (h : OutOfPlace e m) :
    (handleMsg e m).1.emitted = e.emitted ++ [.msgReject m.type rejUnexpected]
    ∧ (handleMsg e m).1.ownTx = e.ownTx
    ∧ (handleMsg e m).1.rxLog = e.rxLog ∧ (handleMsg e m).1.rxTmp = e.rxTmp
    ∧ (handleMsg e m).1.closed = e.closed ∧ (handleMsg e m).2 = [] := by
  rw [handleMsg_outOfPlace e m h, sendReject, sendMessage_eq]
  exact ⟨rfl, rfl, rfl, rfl, rfl, rfl⟩

/-- **Undecodable input closes the connection**: a read that leaves the framing layer `dead` (a contact
    header with wrong magic or version, or an unknown message type) ends with the endpoint closed; messages
    delimited before the offending octets in the same read are still handled. -/
theorem C17_bad_contact_closes (e : Ep) (c : Bytes) (hc : e.closed = false)
    (hbad : (feed e.rx c).1.dead = true) : (step e (.rx c)).1.closed = true := by
  rw [step_rx e c hc]
  unfold recvRaw
  simp only [hbad, if_true]
  exact closed_doClose _

/-- non-vacuity: an established endpoint with an open reception and a queued transfer; an ACK for an
    unknown transfer and a stray non-START segment are out of place; the ACK is rejected -/
def exEp : Ep := { inSess := true, sentInit := true, sentContact := true, started := true, sendSegSize := 10,
                   rxTmp := some (7, [1, 2]), txMap := [1], txPendStart := [⟨1, [9, 9, 9]⟩], txNextId := 2,
                   sendLog := [⟨1, [9, 9, 9]⟩] }
example : OutOfPlace exEp (.xferAck 1 999 5) := Or.inr (Or.inl (by decide))
example : OutOfPlace exEp (.xferSegment 0 8 [] [3]) :=
  Or.inr ⟨by decide, by intro t d h; cases h; decide⟩
example : (handleMsg exEp (.xferAck 1 999 5)).1.emitted = [.msgReject tXferAck rejUnexpected] := by decide

end Tcpcl
end DtnVerif
