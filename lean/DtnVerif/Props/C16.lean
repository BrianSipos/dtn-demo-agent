/-
  C16  COSE confidentiality blocks encrypt, bind context and decrypt exactly.

  Proved about Model/Sec.lean (compared call-by-call with `get_external_aad`, pycose's
  `_enc_structure`, and end-to-end with the real `apply_bcb` / `verify_bcb`):
  * after `apply_bcb` the target's BTSD is `aeadEnc key iv (Enc_structure …) plaintext` and the
    security result carries no payload – the plaintext field is not what is emitted;
  * under the explicit AEAD law `aeadDec k iv a (aeadEnc k iv a p) = some p` (and, for key wrap,
    `unwrap kek (keyWrap kek cek) = some cek`) a receiver with the same covered view and key
    recovers exactly `p`, and writes it into the target iff acceptance is configured;
  * the associated data is injective in / only depends on the covered view (as C03);
  * if decryption fails nothing is written and the failure is reported.

  NOT proved: that AES-GCM / AES-KW reject modified ciphertext, associated data or keys. The model
  hands the primitive octets that provably differ whenever the covered view differs; rejection is
  the primitive's security property (`aeadDec … = none` appears as a hypothesis).
-/
import DtnVerif.Lemmas.Sec
import DtnVerif.Lemmas.SecLoop
import DtnVerif.Generated.Facts
namespace DtnVerif
namespace Props
open Cbor Bp Sec

theorem C16_facts :
    Facts.const_bpsec_BPSEC_COSE_CONTEXT_ID = (coseContextId : Int) ∧
    Facts.enum_bpsec_CoseContext_AadScopeFlag_METADATA = (flagMetadata : Int) ∧
    Facts.enum_bpsec_CoseContext_AadScopeFlag_BTSD = (flagBtsd : Int) ∧
    ("CanonicalBlock", "BlockConfidentialityBlock", "bind_type", (typeBcb : Int)) ∈ Facts.binds ∧
    Facts.enum_admin_StatusReport_ReasonCode_FAILED_SEC = 15 ∧
    Facts.enum_blocks_CanonicalBlock_Flag_REPLICATE_IN_FRAGMENT = 1 ∧
    -- transmit chain: integrity is applied before confidentiality, both before fragmentation
    ((Facts.chainSteps.filter (fun s => s.1 == "tx_chain" && decide (0 < s.2.1))).map (fun s => (s.2.1, s.2.2.2))) =
      [(10, "_apply_bib"), (11, "_apply_bcb"), (20, "_create")] := by
  decide +kernel

def AeadLaw {Key : Type} (P : Prims Key) : Prop :=
  ∀ k iv aad p, P.aeadDec k iv aad (P.aeadEnc k iv aad p) = some p

def WrapLaw {Key : Type} (P : Prims Key) : Prop :=
  ∀ kek cek, P.unwrap kek (P.keyWrap kek cek) = some cek

section
variable {Key : Type} (P : Prims Key) (store : Bytes → Option Key) (crcFn : Nat → Bytes → Bytes)

/-- What both forms of `apply_bcb` do to the target, whatever message they build. -/
private theorem applyEnc_spec (ctx : AadCtx) (context : String) (prot iv : Bytes) (key : Key)
    (msg m : Msg) (t : Canonical)
    (h : (match encInput crcFn ctx context prot, ctx.tgt.btsd with
      | some aad, some p => some (msg, { ctx.tgt with btsd := some (P.aeadEnc key iv aad p) })
      | _, _ => none) = some (m, t)) :
    ∃ aad p, encInput crcFn ctx context prot = some aad ∧ ctx.tgt.btsd = some p ∧
      t.btsd = some (P.aeadEnc key iv aad p) ∧ m = msg ∧
      t.typeCode = ctx.tgt.typeCode ∧ t.blockNum = ctx.tgt.blockNum ∧ t.flags = ctx.tgt.flags := by
  split at h
  · rename_i aad p h1 h2
    cases h
    exact ⟨aad, p, h1, h2, rfl, rfl, rfl, rfl, rfl⟩
  · cases h

/-- **Ciphertext on the wire (COSE_Encrypt0).** Whatever `apply_bcb` returns, the target block it
    leaves behind carries `aeadEnc k iv aad p` where `p` was the BTSD before and `aad` the
    Enc_structure; type, number and flags of the target are untouched and the security
    result has a detached (nil) payload. -/
theorem C16_ciphertext_on_wire (ctx : AadCtx) (prot kid iv : Bytes) (k : Key) (m : Msg) (t : Canonical)
    (h : applyEnc0 P crcFn ctx prot kid iv k = some (m, t)) :
    ∃ aad p, encInput crcFn ctx "Encrypt0" prot = some aad ∧ ctx.tgt.btsd = some p ∧
      t.btsd = some (P.aeadEnc k iv aad p) ∧ m = .enc0 prot (some kid) iv none ∧
      t.typeCode = ctx.tgt.typeCode ∧ t.blockNum = ctx.tgt.blockNum ∧ t.flags = ctx.tgt.flags :=
  applyEnc_spec P crcFn ctx "Encrypt0" prot iv k _ m t h

/-- **Ciphertext on the wire (COSE_Encrypt + key wrap).** -/
theorem C16_ciphertext_on_wire_kw (ctx : AadCtx) (prot kid iv : Bytes) (kek cek : Key) (m : Msg) (t : Canonical)
    (h : applyEncKw P crcFn ctx prot kid iv kek cek = some (m, t)) :
    ∃ aad p, encInput crcFn ctx "Encrypt" prot = some aad ∧ ctx.tgt.btsd = some p ∧
      t.btsd = some (P.aeadEnc cek iv aad p) ∧
      m = .enc prot iv none [⟨some kid, P.keyWrap kek cek⟩] ∧
      t.typeCode = ctx.tgt.typeCode ∧ t.blockNum = ctx.tgt.blockNum ∧ t.flags = ctx.tgt.flags :=
  applyEnc_spec P crcFn ctx "Encrypt" prot iv cek _ m t h

/-- **The wire carries the ciphertext, attached records included.** Whatever object is attached to
    the target block at the source (an administrative record the agent built, say), once `apply_bcb`
    has stored the ciphertext in the block's `btsd` field that field – not a re-encoding of the
    attached object – is what the block emits. -/
theorem C16_wire_is_ciphertext (ctx : AadCtx) (prot kid iv : Bytes) (k : Key) (m : Msg) (t : Canonical)
    (attached : Option Bytes) (h : applyEnc0 P crcFn ctx prot kid iv k = some (m, t)) :
    ∃ aad p, encInput crcFn ctx "Encrypt0" prot = some aad ∧ ctx.tgt.btsd = some p ∧
      (TxBlock.mk t attached).wireBtsd = P.aeadEnc k iv aad p := by
  obtain ⟨aad, p, h1, h2, h3, _⟩ := C16_ciphertext_on_wire P crcFn ctx prot kid iv k m t h
  exact ⟨aad, p, h1, h2, by simp [TxBlock.wireBtsd, h3]⟩

/-- **Frame.** The AEAD associated data depends on the covered view and the protected header only. -/
theorem C16_frame (x y : AadCtx) (context : String) (prot : Bytes)
    (hv : coveredView crcFn x = coveredView crcFn y) :
    encInput crcFn x context prot = encInput crcFn y context prot := by
  rw [encInput_eq, encInput_eq, hv]

/-- **Injectivity of the associated data.** Equal Enc_structures force equal covered views (security
    source, scope, primary block, covered blocks' metadata / data, additional protected parameters),
    equal protected headers and equal context strings. Side conditions as in C03. -/
theorem C16_aad_injective (x y : AadCtx) (cx cy : String) (px py : Bytes) (v w : View) (i : Bytes)
    (hx : coveredView crcFn x = some v) (hy : coveredView crcFn y = some w)
    (bv : ViewBounded v) (bw : ViewBounded w)
    (lv : v.enc.length < 2 ^ 64) (lw : w.enc.length < 2 ^ 64)
    (lcx : (ascii cx).length < 2 ^ 64) (lcy : (ascii cy).length < 2 ^ 64)
    (lpx : (effProt px).length < 2 ^ 64) (lpy : (effProt py).length < 2 ^ 64)
    (hix : encInput crcFn x cx px = some i) (hiy : encInput crcFn y cy py = some i) :
    v = w ∧ ascii cx = ascii cy ∧ effProt px = effProt py := by
  rw [encInput_eq, hx, Option.map_some, Option.some.injEq] at hix
  rw [encInput_eq, hy, Option.map_some, Option.some.injEq] at hiy
  obtain ⟨h1, h2, h3, _⟩ := coseStructure_inj (n := 3) (by omega) lcx lcy lpx lpy lv lw
    ⟨bv, coveredView_conform hx⟩ ⟨bw, coveredView_conform hy⟩ (congrArg (· ++ []) (hix.trans hiy.symm))
  exact ⟨h1, h2, h3⟩

/-- **Exact recovery (COSE_Encrypt0).** Source context `src` (target still plaintext `p`), receiver
    context `rcv` whose target is the block `apply_bcb` left (`t`), same covered view, same key under
    the key id: decryption yields exactly `p`; the target afterwards holds `p` iff acceptance is on. -/
theorem C16_roundtrip (law : AeadLaw P) (src rcv : AadCtx) (prot kid iv : Bytes) (k : Key) (m : Msg)
    (t : Canonical) (p : Bytes) (accept : Bool)
    (hp : src.tgt.btsd = some p)
    (ha : applyEnc0 P crcFn src prot kid iv k = some (m, t))
    (ht : rcv.tgt = t) (hv : coveredView crcFn src = coveredView crcFn rcv) (hk : store kid = some k) :
    bcbPlain P store crcFn rcv (m.attach (t.btsd.getD [])) = some p ∧
    verifyBcbTarget P store crcFn accept rcv (m.attach (t.btsd.getD [])) =
      (true, if accept then { t with btsd := some p } else t) := by
  obtain ⟨aad, p', h1, h2, h3, h4, _⟩ := C16_ciphertext_on_wire P crcFn src prot kid iv k m t ha
  rw [hp] at h2
  cases h2
  subst h4
  rw [C16_frame crcFn src rcv "Encrypt0" prot hv] at h1
  have hb : bcbPlain P store crcFn rcv ((Msg.enc0 prot (some kid) iv none).attach (t.btsd.getD [])) = some p := by
    simp [bcbPlain, Msg.attach, ht, h3, h1, lookupKey, hk, law k iv aad p]
  exact ⟨hb, by simp only [verifyBcbTarget, hb, ht]⟩

/-- **Exact recovery (COSE_Encrypt + key wrap)** under the AEAD and key-wrap laws. -/
theorem C16_roundtrip_kw (law : AeadLaw P) (wlaw : WrapLaw P) (src rcv : AadCtx) (prot kid iv : Bytes)
    (kek cek : Key) (m : Msg) (t : Canonical) (p : Bytes) (accept : Bool)
    (hp : src.tgt.btsd = some p)
    (ha : applyEncKw P crcFn src prot kid iv kek cek = some (m, t))
    (ht : rcv.tgt = t) (hv : coveredView crcFn src = coveredView crcFn rcv) (hk : store kid = some kek) :
    verifyBcbTarget P store crcFn accept rcv (m.attach (t.btsd.getD [])) =
      (true, if accept then { t with btsd := some p } else t) := by
  obtain ⟨aad, p', h1, h2, h3, h4, _⟩ := C16_ciphertext_on_wire_kw P crcFn src prot kid iv kek cek m t ha
  rw [hp] at h2
  cases h2
  subst h4
  rw [C16_frame crcFn src rcv "Encrypt" prot hv] at h1
  simp [verifyBcbTarget, bcbPlain, Msg.attach, ht, h3, h1, firstPlain, encRecipPlain, lookupKey, hk,
    wlaw kek cek, law cek iv aad p]

/-- **No release on failure.** If no plaintext is obtained (missing key, key unwrap failure, AEAD
    rejection, AAD construction raising, wrong message type) the target block is left exactly as it
    was and the operation reports failure (`verify_bcb_target` returns FAILED_SEC). -/
theorem C16_fail_no_release (accept : Bool) (ctx : AadCtx) (m : Msg)
    (h : bcbPlain P store crcFn ctx m = none) :
    verifyBcbTarget P store crcFn accept ctx m = (false, ctx.tgt) := by
  simp [verifyBcbTarget, h]

/-- The reduction to the primitive for COSE_Encrypt0: if the AEAD rejects (ciphertext, associated
    data, iv) under the stored key, or the store has no key for the key id, nothing is released. -/
theorem C16_fail_no_release_enc0 (accept : Bool) (ctx : AadCtx) (prot iv : Bytes) (kid pl : Option Bytes)
    (h : ∀ k aad ct, lookupKey store kid = some k → encInput crcFn ctx "Encrypt0" prot = some aad →
      ctx.tgt.btsd = some ct → P.aeadDec k iv aad ct = none) :
    verifyBcbTarget P store crcFn accept ctx (.enc0 prot kid iv pl) = (false, ctx.tgt) := by
  apply C16_fail_no_release
  unfold bcbPlain
  cases h1 : ctx.tgt.btsd with
  | none => rfl
  | some ct =>
    simp only
    cases h2 : encInput crcFn ctx "Encrypt0" prot with
    | none => rfl
    | some aad =>
      cases h3 : lookupKey store kid with
      | none => rfl
      | some k => simpa using h k aad ct h3 h2 h1

/-- **A recipient list decrypts iff SOME recipient does.** `verify_bcb_target` walks the recipients and
    keeps the first plaintext obtained; a later recipient that is not ours cannot undo it. -/
theorem C16_some_recipient_suffices (iv aad ct : Bytes) :
    ∀ (rs : List Recipient),
      (firstPlain P store iv aad ct rs).isSome = true ↔
        ∃ r ∈ rs, (encRecipPlain P store iv aad ct r).isSome = true
  | [] => by simp [firstPlain]
  | r :: rs => by
    have ih := C16_some_recipient_suffices iv aad ct rs
    unfold firstPlain
    cases h : encRecipPlain P store iv aad ct r with
    | some p => simp [h]
    | none => simp [h, ih]

/-- **…independent of the order of the recipients.** Two recipient lists with the same members either
    both yield a plaintext or both fail. -/
theorem C16_recipient_order_irrelevant (iv aad ct : Bytes) (rs rs' : List Recipient)
    (h : ∀ r, r ∈ rs ↔ r ∈ rs') :
    (firstPlain P store iv aad ct rs).isSome = (firstPlain P store iv aad ct rs').isSome := by
  rw [Bool.eq_iff_iff, C16_some_recipient_suffices, C16_some_recipient_suffices]
  simp only [h]

/-- **A recorded failure is never withdrawn.** Once one target of a BCB failed, the block fails
    whatever the later targets do (all of them may decrypt): `verify_bcb` cannot return "no failure". -/
theorem C16_failure_sticks (accept : Bool) (prim : Primary) (sb : SecBlock) :
    ∀ (ts : List Nat) (blocks : List Canonical) (ix : Nat),
      (verifyBcbLoop P store crcFn accept prim sb ts blocks ix true).1 ≠ .ok := by
  intro ts blocks ix h
  rw [verifyBcbLoop_eq] at h
  exact absurd (secLoop_ok_imp _ _ _ _ h).1 (by simp)

/-- **Duplicate parameter ids, or duplicate result ids for one target, fail closed**: nothing is
    decrypted, no block is rewritten. -/
theorem C16_duplicate_ids_fail (accept : Bool) (b : Bundle) (sb : SecBlock)
    (h : hasDup sb.paramIds = true ∨ sb.results.any (fun r => hasDup (r.map (·.1))) = true) :
    verifyBcb P store crcFn accept b sb = (.failed 15, b.blocks) := by
  simp [verifyBcb, checkSecblk_dup h]

private theorem verifyBcb_ok_iff (accept : Bool) (b : Bundle) (sb : SecBlock) :
    (verifyBcb P store crcFn accept b sb).1 = .ok ↔ checkSecblk sb = .ok ∧
      (verifyBcbLoop P store crcFn accept b.primary sb sb.targets b.blocks 0 false).1 = .ok := by
  unfold verifyBcb
  cases checkSecblk sb <;> simp

/-- **More (or fewer) than one result for a target fails closed**, with or without acceptance and
    wherever the genuine result stands among them: `verify_bcb` cannot return "no failure". -/
theorem C16_result_count_fails (accept : Bool) (b : Bundle) (sb : SecBlock) (j : Nat) (hj : j < sb.targets.length)
    (hbad : ∀ id m, sb.results[j]? ≠ some [(id, m)]) :
    (verifyBcb P store crcFn accept b sb).1 ≠ .ok := by
  rw [Ne, verifyBcb_ok_iff, verifyBcbLoop_eq]
  intro ⟨_, h⟩
  obtain ⟨id, m, hr⟩ := (secLoop_ok_imp _ _ _ _ h).2 j hj
  exact hbad id m (by simpa using hr)

/-- What `verify_bcb` requires of target number `t` at index `ix` (blocks as received). -/
def BcbTargetOk (b : Bundle) (sb : SecBlock) (ix t : Nat) : Prop :=
  ∃ tgt id m, findBlock b.blocks t = some tgt ∧ sb.results[ix]? = some [(id, m)] ∧
    (bcbPlain P store crcFn (ctxFor b.primary b.blocks sb tgt) (m.attach (tgt.btsd.getD []))).isSome = true

private theorem verifyBcbTarget_fst (accept : Bool) (ctx : AadCtx) (m : Msg) :
    (verifyBcbTarget P store crcFn accept ctx m).1 = (bcbPlain P store crcFn ctx m).isSome := by
  unfold verifyBcbTarget
  cases bcbPlain P store crcFn ctx m <;> rfl

/-- **Whole block (verifier role).** Without acceptance `CoseContext.verify_bcb` returns "no failure"
    exactly when the block has no duplicate parameter / result ids and *every* target – whatever its
    position in the target list – exists, has exactly one result and decrypts. (With acceptance the
    loop rewrites targets as it goes; `C16_failure_sticks` is the position-independent part then.) -/
theorem C16_verify_iff (b : Bundle) (sb : SecBlock) :
    (verifyBcb P store crcFn false b sb).1 = .ok ↔
      checkSecblk sb = .ok ∧
      ∀ j, (hj : j < sb.targets.length) → BcbTargetOk P store crcFn b sb j sb.targets[j] := by
  rw [verifyBcb_ok_iff, verifyBcbLoop_eq, secLoop_ok_iff (fun _ _ _ => rfl)]
  simp only [BcbTargetOk, verifyBcbTarget_fst, Nat.zero_add, true_and]

/-- Without acceptance the target is never rewritten, whatever the outcome. -/
theorem C16_no_accept_no_write (ctx : AadCtx) (m : Msg) :
    (verifyBcbTarget P store crcFn false ctx m).2 = ctx.tgt := by
  unfold verifyBcbTarget
  cases bcbPlain P store crcFn ctx m <;> rfl

end

namespace C16ex
def toyTag (k iv aad : Bytes) : UInt8 := UInt8.ofNat (k.length + iv.length + aad.length)
def toyP : Prims Bytes :=
  { mac := fun k _ => k, verifySig := fun _ _ _ => false,
    aeadEnc := fun k iv aad p => toyTag k iv aad :: p.reverse,
    aeadDec := fun k iv aad c =>
      match c with
      | [] => none
      | t :: body => if t = toyTag k iv aad then some body.reverse else none,
    keyWrap := fun kek cek => kek ++ cek,
    unwrap := fun kek w => if w.take kek.length = kek then some (w.drop kek.length) else none }
def store (kid : Bytes) : Option Bytes := if kid = [7] then some [1, 2, 3, 4] else none
def crc (_ : Nat) (_ : Bytes) : Bytes := [0, 0, 0, 0]
def payload : Canonical := { typeCode := 1, blockNum := 1, btsd := some [72, 105] }
def ctx : AadCtx :=
  { ssrc := .ipn [5, 0], scope := [(0, 1), (-1, 1)], primary := { crcType := 2, dest := .ipn [2, 5] },
    blocks := [payload], secBlk := { typeCode := 12, blockNum := 2, flags := 1 }, tgt := payload, addlProt := [] }
end C16ex

theorem C16_laws_satisfiable : AeadLaw C16ex.toyP ∧ WrapLaw C16ex.toyP := by
  constructor
  · intro k iv aad p
    simp [C16ex.toyP]
  · intro kek cek
    simp [C16ex.toyP]

example : ∃ m t, applyEnc0 C16ex.toyP C16ex.crc C16ex.ctx [0xa1, 1, 3] [7] [9, 9, 9] [1, 2, 3, 4] = some (m, t) ∧
    t.btsd ≠ C16ex.payload.btsd ∧
    verifyBcbTarget C16ex.toyP C16ex.store C16ex.crc true { C16ex.ctx with tgt := t } (m.attach (t.btsd.getD [])) =
      (true, C16ex.payload) := by
  refine ⟨_, _, rfl, by decide +kernel⟩

example : ∃ m t, applyEnc0 C16ex.toyP C16ex.crc
      { C16ex.ctx with tgt := { C16ex.payload with btsd := some [] } } [0xa1, 1, 3] [7] [9] [1, 2, 3, 4] = some (m, t) ∧
    verifyBcbTarget C16ex.toyP C16ex.store C16ex.crc true { C16ex.ctx with tgt := t } (m.attach (t.btsd.getD [])) =
      (true, { C16ex.payload with btsd := some [] }) := by
  refine ⟨_, _, rfl, by decide +kernel⟩

namespace C16ex
def age : Canonical := { typeCode := 7, blockNum := 2, btsd := some [0x18, 0x2a] }
def bundle2 : Bundle := ⟨{ crcType := 2, dest := .ipn [2, 5] }, [age, payload]⟩
def bcbBlk : Canonical := { typeCode := 12, blockNum := 3, flags := 1 }
def twoTargets : Option (SecBlock × Bundle) :=
  let ctx1 : AadCtx := ⟨.ipn [5, 0], [(0, 1), (-1, 1)], bundle2.primary, bundle2.blocks, bcbBlk, payload, []⟩
  match applyEnc0 toyP crc ctx1 [0xa1, 1, 3] [7] [1, 1] [1, 2, 3, 4] with
  | none => none
  | some (m1, t1) =>
    let blocks1 := replaceBlock bundle2.blocks t1
    let ctx2 : AadCtx := ⟨.ipn [5, 0], [(0, 1), (-1, 1)], bundle2.primary, blocks1, bcbBlk, age, []⟩
    match applyEnc0 toyP crc ctx2 [0xa1, 1, 3] [7] [2, 2] [1, 2, 3, 4] with
    | none => none
    | some (m2, t2) =>
      some ({ blk := bcbBlk, ssrc := .ipn [5, 0], targets := [1, 2], paramIds := [5], scope := [(0, 1), (-1, 1)],
              addlProt := [], results := [[(16, m1)], [(16, m2)]] },
            ⟨bundle2.primary, replaceBlock blocks1 t2⟩)
def sb2 : SecBlock := (twoTargets.map Prod.fst).getD default
def wire2 : Bundle := (twoTargets.map Prod.snd).getD default
def corrupt (b : Bundle) (n : Nat) : Bundle :=
  { b with blocks := b.blocks.map (fun c => if c.blockNum == n then { c with btsd := c.btsd.map (fun d => match d with | [] => [1] | x :: r => (x + 1) :: r) } else c) }
end C16ex

example : C16ex.twoTargets.isSome = true ∧
    (verifyBcb C16ex.toyP C16ex.store C16ex.crc true C16ex.wire2 C16ex.sb2) = (.ok, C16ex.bundle2.blocks) ∧
    (verifyBcb C16ex.toyP C16ex.store C16ex.crc false C16ex.wire2 C16ex.sb2).1 = .ok ∧
    (verifyBcb C16ex.toyP C16ex.store C16ex.crc true (C16ex.corrupt C16ex.wire2 1) C16ex.sb2).1 = .failed 15 ∧
    (verifyBcb C16ex.toyP C16ex.store C16ex.crc false (C16ex.corrupt C16ex.wire2 2) C16ex.sb2).1 = .failed 15 ∧
    C16ex.wire2.blocks ≠ C16ex.bundle2.blocks := by
  decide +kernel

example : ∀ rs ∈ [[(⟨some [7], [1, 2, 3, 4, 9, 9]⟩ : Recipient), ⟨some [8], [0]⟩],
                  [⟨some [8], [0]⟩, ⟨some [7], [1, 2, 3, 4, 9, 9]⟩],
                  [⟨some [8], [0]⟩, ⟨some [7], [1, 2, 3, 4, 9, 9]⟩, ⟨some [7], [5]⟩]],
    firstPlain C16ex.toyP C16ex.store [1] [2] (C16ex.toyP.aeadEnc [9, 9] [1] [2] [42]) rs = some [42] := by
  decide

example : ∃ m t, applyEnc0 C16ex.toyP C16ex.crc C16ex.ctx [0xa1, 1, 3] [7] [9, 9, 9] [1, 2, 3, 4] = some (m, t) ∧
    verifyBcbTarget C16ex.toyP C16ex.store C16ex.crc true
      { C16ex.ctx with tgt := t, primary := { crcType := 2, dest := .ipn [2, 500] } } (m.attach (t.btsd.getD [])) =
      (false, t) := by
  refine ⟨_, _, rfl, by decide +kernel⟩

end Props
end DtnVerif
