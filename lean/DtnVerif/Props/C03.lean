/-
  C03  A COSE integrity block verifies iff nothing it covers was altered.

  What is proved (about Model/Sec.lean, which the C03 check compares call-by-call with
  `CoseSecOpCtx.get_external_aad`, pycose's `_mac_structure` and the real verifier):
  * verification of a target succeeds exactly when the stored tag equals the MAC (resp. the
    signature verifies) over `macInput` – the COSE MAC_structure around the external AAD;
  * what `apply_bib` produces verifies wherever the covered view is the same (MAC0, MAC + key wrap);
  * `macInput` is *injective* in the covered view: two bundles/contexts with the same MAC input
    agree on security source, AAD scope, every covered block item (primary block with refreshed CRC,
    type/number/flags, BTSD), the protected parameters, the protected header as it is authenticated (`effProt`: an empty map
    counts as absent) and the target data;
  * `macInput` *only* depends on the covered view (frame): other changes cannot cause failure.

  What is NOT proved: that HMAC / ECDSA reject forgeries. `Prims.mac`, `Prims.verifySig`,
  `Prims.unwrap` are uninterpreted; the statements reduce acceptance to "the primitive accepts this
  key and these octets", and injectivity says an altered covered view always presents *different*
  octets to the primitive. Whether that makes the primitive reject is its own security claim.
-/
import DtnVerif.Lemmas.Sec
import DtnVerif.Lemmas.SecLoop
import DtnVerif.Generated.Facts
namespace DtnVerif
namespace Props
open Cbor Bp Sec

/-- Constants of the source the model relies on (regenerated from /repo on every run). -/
theorem C03_facts :
    Facts.const_bpsec_BPSEC_COSE_CONTEXT_ID = (coseContextId : Int) ∧
    Facts.enum_bpsec_CoseContext_AadScopeFlag_METADATA = (flagMetadata : Int) ∧
    Facts.enum_bpsec_CoseContext_AadScopeFlag_BTSD = (flagBtsd : Int) ∧
    ("CanonicalBlock", "BlockIntegrityBlock", "bind_type", (typeBib : Int)) ∈ Facts.binds ∧
    Facts.enum_admin_StatusReport_ReasonCode_FAILED_SEC = 15 ∧
    Facts.enum_bpsecenc_AbstractSecurityBlock_Flag_PARAMETERS_PRESENT = 1 := by
  decide +kernel

section
variable {Key : Type} (P : Prims Key) (store : Bytes → Option Key) (crcFn : Nat → Bytes → Bytes)

def TagOk (ctx : AadCtx) : Msg → Prop
  | .mac0 prot kid _ tag =>
    ∃ inp k, macInput crcFn ctx "MAC0" prot = some inp ∧ lookupKey store kid = some k ∧ tag = P.mac k inp
  | .mac prot _ tag recips =>
    ∃ inp, macInput crcFn ctx "MAC" prot = some inp ∧
      ∃ r ∈ recips, ∃ kek cek, lookupKey store r.kid = some kek ∧ P.unwrap kek r.wrapped = some cek ∧
        tag = P.mac cek inp
  | .sign1 prot kid _ sig =>
    ∃ inp k, macInput crcFn ctx "Signature1" prot = some inp ∧ lookupKey store kid = some k ∧
      P.verifySig k inp sig = true
  | _ => False

private theorem macRecipOk_iff (tag inp : Bytes) (r : Recipient) :
    macRecipOk P store tag inp r = true ↔
      ∃ kek cek, lookupKey store r.kid = some kek ∧ P.unwrap kek r.wrapped = some cek ∧ tag = P.mac cek inp := by
  unfold macRecipOk
  cases lookupKey store r.kid with
  | none => simp
  | some kek => cases h : P.unwrap kek r.wrapped <;> simp [h]

/-- **C03 (per target).** `verify_bib_target` accepts exactly when the tag is the MAC of the MAC input
    under the key the store holds for the key id (COSE_Mac0), some recipient's unwrapped key
    (COSE_Mac), resp. the signature verifies (COSE_Sign1). -/
theorem C03_verify_target_iff (ctx : AadCtx) (m : Msg) :
    verifyBibTarget P store crcFn ctx m = true ↔ TagOk P store crcFn ctx m := by
  cases m with
  | mac0 prot kid pl tag =>
    simp only [verifyBibTarget, TagOk]
    cases macInput crcFn ctx "MAC0" prot <;> cases lookupKey store kid <;> simp
  | mac prot pl tag recips =>
    simp only [verifyBibTarget, TagOk]
    cases macInput crcFn ctx "MAC" prot <;> simp [macRecipOk_iff]
  | sign1 prot kid pl sig =>
    simp only [verifyBibTarget, TagOk]
    cases macInput crcFn ctx "Signature1" prot <;> cases lookupKey store kid <;> simp
  | enc0 _ _ _ _ => simp [verifyBibTarget, TagOk]
  | enc _ _ _ _ => simp [verifyBibTarget, TagOk]

def TargetOk (b : Bundle) (sb : SecBlock) (ix t : Nat) : Prop :=
  ∃ tgt id m, findBlock b.blocks t = some tgt ∧ sb.results[ix]? = some [(id, m)] ∧
    TagOk P store crcFn (ctxFor b.primary b.blocks sb tgt) (m.attach (tgt.btsd.getD []))

/-- **C03 (whole block).** `CoseContext.verify_bib` returns "no failure" exactly when the block has
    no duplicate parameter / result ids and, for every target, the target block exists, there is
    exactly one result and its tag is the MAC of the MAC input (`TagOk`). -/
theorem C03_verify_iff (b : Bundle) (sb : SecBlock) :
    verifyBib P store crcFn b sb = .ok ↔
      checkSecblk sb = .ok ∧
      ∀ j, (hj : j < sb.targets.length) → TargetOk P store crcFn b sb j sb.targets[j] := by
  unfold verifyBib
  cases hc : checkSecblk sb with
  | failed n => simp
  | raised => simp
  | ok =>
    rw [verifyBibLoop_eq, secLoop_ok_iff (fun _ _ _ => rfl)]
    simp only [TargetOk, C03_verify_target_iff, Nat.zero_add, true_and]

/-- **A recorded failure is never withdrawn.** Once one target of a BIB failed, `verify_bib` cannot
    return "no failure", whatever the later targets do (they may all verify). -/
theorem C03_failure_sticks (b : Bundle) (sb : SecBlock) :
    ∀ (ts : List Nat) (ix : Nat), verifyBibLoop P store crcFn b sb ts ix true ≠ .ok := by
  intro ts ix h
  rw [verifyBibLoop_eq] at h
  exact absurd (secLoop_ok_imp _ _ _ _ h).1 (by simp)

/-- **More (or fewer) than one result for a target fails closed**, wherever the genuine result stands
    among them. -/
theorem C03_result_count_fails (b : Bundle) (sb : SecBlock) (j : Nat) (hj : j < sb.targets.length)
    (hbad : ∀ id m, sb.results[j]? ≠ some [(id, m)]) :
    verifyBib P store crcFn b sb ≠ .ok := by
  intro hok
  rw [C03_verify_iff] at hok
  obtain ⟨_, id, m, _, hr, _⟩ := hok.2 j hj
  exact hbad id m hr

/-- **Targets without a result fail.** A BIB whose results array is shorter than its targets array
    (a trailing MAC stripped, or all of them) never verifies: `verify_bib` indexes the results by
    target index (`IndexError`, which the receive step records as FAILED_SEC). -/
theorem C03_missing_result_fails (b : Bundle) (sb : SecBlock) (h : sb.results.length < sb.targets.length) :
    verifyBib P store crcFn b sb ≠ .ok :=
  C03_result_count_fails P store crcFn b sb sb.results.length h (fun id m => by simp)

/-- **The MAC input is always the target's current BTSD.** Whatever payload a security result
    embeds (attached form) is discarded: verification of `m` and of its detached form coincide, and
    both use `ctx.tgt.btsd`. -/
theorem C03_mac_input_is_target_btsd (ctx : AadCtx) (m : Msg) (d : Bytes) :
    verifyBibTarget P store crcFn ctx (m.attach d) = verifyBibTarget P store crcFn ctx m.detach ∧
    verifyBibTarget P store crcFn ctx m = verifyBibTarget P store crcFn ctx m.detach := by
  cases m <;> exact ⟨rfl, rfl⟩

/-- **Duplicate parameter ids, or duplicate result ids for one target, fail closed** (`check_secblk`). -/
theorem C03_duplicate_ids_fail (b : Bundle) (sb : SecBlock)
    (h : hasDup sb.paramIds = true ∨ sb.results.any (fun r => hasDup (r.map (·.1))) = true) :
    verifyBib P store crcFn b sb = .failed 15 := by
  simp [verifyBib, checkSecblk_dup h]

/-- **AAD scope flags, per block.** For a scope entry naming a canonical block (`k ≠ 0`): flags 1
    contribute the block's type, number and flags; flags 2 its BTSD; flags 3 *both* (metadata first,
    then the BTSD byte string); flags 0 nothing. -/
theorem C03_scope_flags (ctx : AadCtx) (k : Int) (hk : k ≠ 0) (c : Canonical) (d : Bytes)
    (hb : scopeBlock ctx k = some c) (hd : c.btsd = some d) :
    scopeItem crcFn ctx k 0 = some (.canon none none) ∧
    scopeItem crcFn ctx k 1 = some (.canon (some (c.typeCode, c.blockNum, c.flags)) none) ∧
    scopeItem crcFn ctx k 2 = some (.canon none (some d)) ∧
    scopeItem crcFn ctx k 3 = some (.canon (some (c.typeCode, c.blockNum, c.flags)) (some d)) ∧
    (Item.canon (some (c.typeCode, c.blockNum, c.flags)) (some d)).enc =
      encUint c.typeCode ++ encUint c.blockNum ++ encUint c.flags ++ encBstr d := by
  refine ⟨?_, ?_, ?_, ?_, ?_⟩ <;>
    simp [scopeItem, hk, hb, hd, hasFlag, flagMetadata, flagBtsd, Item.enc, encMeta, encData]

/-- **Frame.** The MAC input is a function of the covered view, the protected header and the target
    data: contexts that agree on these (whatever else differs in the bundles) give the same input, so
    a change outside the declared scope cannot make verification fail. -/
theorem C03_frame (x y : AadCtx) (context : String) (prot : Bytes)
    (hv : coveredView crcFn x = coveredView crcFn y) (hd : x.tgt.btsd = y.tgt.btsd) :
    macInput crcFn x context prot = macInput crcFn y context prot := by
  rw [macInput_eq, macInput_eq, hv, hd]

/-- The external AAD alone determines the covered view (lengths and integers below 2^64). -/
theorem C03_aad_injective (x y : AadCtx) (v w : View)
    (hx : coveredView crcFn x = some v) (hy : coveredView crcFn y = some w)
    (bv : ViewBounded v) (bw : ViewBounded w)
    (h : externalAad crcFn x = externalAad crcFn y) : v = w := by
  rw [externalAad_eq_view, externalAad_eq_view, hx, hy] at h
  exact view_inj.inj ⟨bv, coveredView_conform hx⟩ ⟨bw, coveredView_conform hy⟩ (Option.some.inj h)

/-- **Injectivity.** Equal MAC inputs force equal covered views, equal (effective) protected headers,
    equal COSE context strings and equal target data. Contrapositive: any change of the target
    data, the primary block, a covered block's type / number / flags / data, the security source, the
    AAD scope, the additional protected parameters or the protected header changes the octets that
    are MACed. Side conditions: every integer and every string length in the covered data is
    below 2^64 (`ViewBounded`), as are the lengths of the AADs, headers, payloads and contexts. -/
theorem C03_input_injective (x y : AadCtx) (cx cy : String) (px py : Bytes) (v w : View) (i : Bytes)
    (hx : coveredView crcFn x = some v) (hy : coveredView crcFn y = some w)
    (bv : ViewBounded v) (bw : ViewBounded w)
    (lv : v.enc.length < 2 ^ 64) (lw : w.enc.length < 2 ^ 64)
    (lcx : (ascii cx).length < 2 ^ 64) (lcy : (ascii cy).length < 2 ^ 64)
    (lpx : (effProt px).length < 2 ^ 64) (lpy : (effProt py).length < 2 ^ 64)
    (ldx : ∀ d, x.tgt.btsd = some d → d.length < 2 ^ 64) (ldy : ∀ d, y.tgt.btsd = some d → d.length < 2 ^ 64)
    (hix : macInput crcFn x cx px = some i) (hiy : macInput crcFn y cy py = some i) :
    v = w ∧ ascii cx = ascii cy ∧ effProt px = effProt py ∧ x.tgt.btsd = y.tgt.btsd := by
  rw [macInput_eq, hx, Option.bind_some, Option.map_eq_some_iff] at hix
  rw [macInput_eq, hy, Option.bind_some, Option.map_eq_some_iff] at hiy
  obtain ⟨dx, hdx, hix⟩ := hix
  obtain ⟨dy, hdy, hiy⟩ := hiy
  obtain ⟨h1, h2, h3, h4⟩ := coseStructure_inj (n := 4) (by omega) lcx lcy lpx lpy lv lw
    ⟨bv, coveredView_conform hx⟩ ⟨bw, coveredView_conform hy⟩ (hix.trans hiy.symm)
  exact ⟨h1, h2, h3, by rw [hdx, hdy, bstr_inj.inj (ldx dx hdx) (ldy dy hdy) h4]⟩

/-- **apply ⇒ verify, COSE_Mac0.** The result `apply_bib` builds for a target verifies at any receiver
    whose covered view and target data are those of the source and whose store maps the key id to the
    same key. -/
theorem C03_apply_verifies (src rcv : AadCtx) (prot kid : Bytes) (k : Key) (m : Msg)
    (hv : coveredView crcFn src = coveredView crcFn rcv) (hd : src.tgt.btsd = rcv.tgt.btsd)
    (hk : store kid = some k) (ha : applyMac0 P crcFn src prot kid k = some m) :
    verifyBibTarget P store crcFn rcv (m.attach (rcv.tgt.btsd.getD [])) = true := by
  unfold applyMac0 at ha
  rw [C03_frame crcFn src rcv "MAC0" prot hv hd] at ha
  split at ha
  · rename_i inp hi
    cases ha
    simp [verifyBibTarget, Msg.attach, hi, lookupKey, hk]
  · cases ha

/-- **apply ⇒ verify, COSE_Mac with a key-wrap recipient**, under `unwrap kek (keyWrap kek cek) = some cek`. -/
theorem C03_apply_verifies_kw (src rcv : AadCtx) (prot kid : Bytes) (kek cek : Key) (m : Msg)
    (hw : P.unwrap kek (P.keyWrap kek cek) = some cek)
    (hv : coveredView crcFn src = coveredView crcFn rcv) (hd : src.tgt.btsd = rcv.tgt.btsd)
    (hk : store kid = some kek) (ha : applyMacKw P crcFn src prot kid kek cek = some m) :
    verifyBibTarget P store crcFn rcv (m.attach (rcv.tgt.btsd.getD [])) = true := by
  unfold applyMacKw at ha
  rw [C03_frame crcFn src rcv "MAC" prot hv hd] at ha
  split at ha
  · rename_i inp hi
    cases ha
    simp [verifyBibTarget, Msg.attach, hi, macRecipOk, lookupKey, hk, hw]
  · cases ha

private theorem applyBibResults_spec (b : Bundle) (sb0 : SecBlock) (prot kid : Bytes) (k : Key)
    (ts : List Nat) (rs : List (List (Nat × Msg))) (h : applyBibResults P crcFn b sb0 prot kid k ts = some rs) :
    rs.any (fun r => hasDup (r.map (·.1))) = false ∧
    ∀ j, (hj : j < ts.length) → ∃ tgt m, findBlock b.blocks ts[j] = some tgt ∧ rs[j]? = some [(17, m)] ∧
      applyMac0 P crcFn (ctxFor b.primary b.blocks sb0 tgt) prot kid k = some m := by
  revert rs
  fun_induction applyBibResults P crcFn b sb0 prot kid k ts <;> intro rs h <;> cases h
  case case1 => exact ⟨rfl, fun j hj => absurd hj (by simp)⟩
  case case3 tgt hf m rest hr ha ih =>
    obtain ⟨ih1, ih2⟩ := ih rest hr
    refine ⟨by simpa [hasDup] using ih1, fun j hj => ?_⟩
    cases j with
    | zero => exact ⟨tgt, m, hf, rfl, ha⟩
    | succ j => simpa using ih2 j (by simpa using hj)

/-- **Results are aligned with targets in any policy order.** Whatever the order in which the policy
    produced the operations (ascending block numbers or not, e.g. an extension-block association
    listed before the payload association), the BIB `apply_bib` builds – target list and results in
    that same order – verifies on the unmodified bundle at a receiver holding the key. -/
theorem C03_apply_block_verifies (b : Bundle) (blk : Canonical) (ssrc : Eid) (scope : List (Int × Nat))
    (prot kid : Bytes) (k : Key) (targets : List Nat) (sb : SecBlock)
    (ha : applyBib P crcFn b blk ssrc scope prot kid k targets = some sb) (hk : store kid = some k) :
    verifyBib P store crcFn b sb = .ok := by
  unfold applyBib at ha
  cases hr : applyBibResults P crcFn b ⟨blk, ssrc, targets, [5], scope, [], []⟩ prot kid k targets with
  | none => simp [hr] at ha
  | some rs =>
    simp only [hr, Option.some.injEq] at ha
    subst ha
    obtain ⟨h1, h2⟩ := applyBibResults_spec P crcFn b _ prot kid k targets rs hr
    rw [C03_verify_iff]
    refine ⟨by simp [checkSecblk, hasDup, h1], fun j hj => ?_⟩
    obtain ⟨tgt, m, hf, hres, hap⟩ := h2 j hj
    exact ⟨tgt, 17, m, hf, hres, (C03_verify_target_iff P store crcFn _ _).mp
      (C03_apply_verifies P store crcFn _ _ prot kid k m rfl rfl hk hap)⟩

end

/-- **Alterations of the security-source text are noticed, up to the codec's normalisation** (partial
    form of "any change to bound content is detected": what is missing is exactly the normalised
    cases, see `C03_eid_normalisation_counterexample`). The AAD is
    built from the decoded-and-re-encoded source text `norm a` of the received text `a`. Two received
    texts give the same AAD only if the normalisation identifies them; with `norm = knownEidNorm`
    (TAB / CR / LF removed, '/' appended to a bare authority) nothing else goes unnoticed – in
    particular a trailing '?' or '#' does (examples below). The normalised cases themselves are a
    weakness of the implementation (the received octets are not what is authenticated). -/
theorem C03_source_text_noticed_partial (crcFn : Nat → Bytes → Bytes) (norm : Bytes → Bytes) (x : AadCtx) (a b : Bytes)
    (v w : View)
    (hx : coveredView crcFn { x with ssrc := .dtn (norm a) } = some v)
    (hy : coveredView crcFn { x with ssrc := .dtn (norm b) } = some w)
    (bv : ViewBounded v) (bw : ViewBounded w)
    (h : externalAad crcFn { x with ssrc := .dtn (norm a) } = externalAad crcFn { x with ssrc := .dtn (norm b) }) :
    norm a = norm b := by
  have hvw := C03_aad_injective crcFn _ _ v w hx hy bv bw h
  have h1 := coveredView_ssrc hx
  have h2 := coveredView_ssrc hy
  rw [hvw, h2] at h1
  simpa using h1.symm

/-- **Counterexample to the full property (known finding, D20 family).** Two *different* received
    security-source texts – `//node` (trailing '/' dropped) and `//no<TAB>de/` against the original
    `//node/` – are decoded and re-encoded to the same text, so every context gives them the same
    external AAD and hence the same MAC input: the alteration of covered octets verifies. The
    harness replays this on the implementation (`C03:eid-normalised-alteration-verifies`). -/
theorem C03_eid_normalisation_counterexample :
    ∃ a b : Bytes, a ≠ b ∧ knownEidNorm a = knownEidNorm b ∧
      ∀ (crcFn : Nat → Bytes → Bytes) (x : AadCtx) (context : String) (prot : Bytes),
        macInput crcFn { x with ssrc := .dtn (knownEidNorm a) } context prot =
        macInput crcFn { x with ssrc := .dtn (knownEidNorm b) } context prot := by
  have h : knownEidNorm (ascii "//node") = knownEidNorm (ascii "//node/") := by decide +kernel
  exact ⟨ascii "//node", ascii "//node/", by decide +kernel, h, fun crcFn x context prot => by rw [h]⟩

example : knownEidNorm (ascii "//node") = ascii "//node/" ∧ knownEidNorm (ascii "//no\tde/") = ascii "//node/" ∧
    knownEidNorm (ascii "//no\nde/\r") = ascii "//node/" ∧ knownEidNorm (ascii "//node/") = ascii "//node/" ∧
    knownEidNorm (ascii "//node?") ≠ ascii "//node/" ∧ knownEidNorm (ascii "//node#") ≠ ascii "//node/" ∧
    knownEidNorm (ascii "//node/?") ≠ ascii "//node/" ∧ knownEidNorm (ascii "//node/ ") ≠ ascii "//node/" ∧
    knownEidNorm (ascii "//nodf/") ≠ ascii "//node/" := by
  decide +kernel

/-- **A certificate key is usable only on a positive identity match.** With certificates as key
    references, the verifier obtains a key exactly when the chain validates and the end-entity
    certificate carries a NODE-ID equal to the security source; "no NODE-ID in the certificate"
    (`none`) and "another NODE-ID" (`some false`) both yield no key – hence (by
    `C03_verify_target_iff`) no COSE_Sign1 result can verify through such a certificate. -/
theorem C03_cert_key_positive_match {Key : Type} (certs : Bytes → Option (CertInfo Key)) (ref : Bytes) (k : Key) :
    certStore certs ref = some k ↔
      ∃ c, certs ref = some c ∧ c.chainValid = true ∧ c.nodeIdMatch = some true ∧ c.key = k := by
  unfold certStore
  cases h : certs ref with
  | none => simp
  | some c =>
    cases hv : c.chainValid <;> cases hm : c.nodeIdMatch with
    | none => simp [hv, hm]
    | some b => cases b <;> simp [hv, hm]

theorem C03_sign1_needs_matching_cert {Key : Type} (P : Prims Key) (crcFn : Nat → Bytes → Bytes)
    (certs : Bytes → Option (CertInfo Key)) (ctx : AadCtx) (prot : Bytes) (ref : Option Bytes)
    (pl : Option Bytes) (sig : Bytes)
    (h : verifyBibTarget P (certStore certs) crcFn ctx (.sign1 prot ref pl sig) = true) :
    ∃ r c, ref = some r ∧ certs r = some c ∧ c.chainValid = true ∧ c.nodeIdMatch = some true := by
  rw [C03_verify_target_iff] at h
  obtain ⟨inp, k, _, hk, _⟩ := h
  cases ref with
  | none => simp [lookupKey] at hk
  | some r =>
    simp only [lookupKey] at hk
    obtain ⟨c, hc, hv, hm, _⟩ := (C03_cert_key_positive_match certs r k).mp hk
    exact ⟨r, c, rfl, hc, hv, hm⟩

namespace C03ex
def toyCrc (_ : Nat) (_ : Bytes) : Bytes := [0xab, 0xcd]
def toyP : Prims Bytes :=
  { mac := fun k d => k ++ [UInt8.ofNat d.length], verifySig := fun _ _ _ => false,
    aeadEnc := fun _ _ _ p => p, aeadDec := fun _ _ _ c => some c,
    keyWrap := fun kek cek => kek ++ cek, unwrap := fun kek w => if w.take kek.length = kek then some (w.drop kek.length) else none }
def toyStore (kid : Bytes) : Option Bytes := if kid = [1] then some [9, 9] else none
def prim : Primary := { crcType := 1, dest := .dtn [0x2f, 0x2f, 0x64], src := .ipn [1, 2], lifetime := 1000 }
def payload : Canonical := { typeCode := 1, blockNum := 1, btsd := some [1, 2, 3] }
def bibBlk : Canonical := { typeCode := 11, blockNum := 2 }
def ctx : AadCtx :=
  { ssrc := .dtn [0x2f, 0x2f, 0x6e], scope := [(-1, 1), (0, 1)], primary := prim, blocks := [payload],
    secBlk := bibBlk, tgt := payload, addlProt := [] }
/-- the receiver sees an extra, uncovered block and a different stale CRC value in the primary block -/
def ctx' : AadCtx :=
  { ctx with blocks := [payload, { typeCode := 7, blockNum := 3, btsd := some [0] }],
             primary := { prim with crc := some [0, 0] } }
end C03ex

example : (externalAad C03ex.toyCrc C03ex.ctx).isSome = true := by decide +kernel

example : coveredView C03ex.toyCrc C03ex.ctx = coveredView C03ex.toyCrc C03ex.ctx' := by decide +kernel

example : ∃ m, applyMac0 C03ex.toyP C03ex.toyCrc C03ex.ctx [0xa1, 1, 5] [1] [9, 9] = some m ∧
    verifyBibTarget C03ex.toyP C03ex.toyStore C03ex.toyCrc C03ex.ctx' (m.attach [1, 2, 3]) = true := by
  refine ⟨_, rfl, ?_⟩
  decide +kernel

namespace C03ex
def bundle : Bundle := ⟨prim, [payload, bibBlk]⟩
def secBlock (tag : Bytes) (results2 : Bool) : SecBlock :=
  { blk := bibBlk, ssrc := ctx.ssrc, targets := [1], paramIds := [5], scope := ctx.scope, addlProt := [],
    results := [(17, .mac0 [0xa1, 1, 5] (some [1]) none tag) :: (if results2 then [(18, .mac0 [] none none [])] else [])] }
end C03ex

example : verifyBib C03ex.toyP C03ex.toyStore C03ex.toyCrc C03ex.bundle (C03ex.secBlock [9, 9, 58] false) = .ok ∧
    verifyBib C03ex.toyP C03ex.toyStore C03ex.toyCrc C03ex.bundle (C03ex.secBlock [9, 9, 0] false) = .failed 15 ∧
    verifyBib C03ex.toyP C03ex.toyStore C03ex.toyCrc C03ex.bundle (C03ex.secBlock [9, 9, 58] true) = .failed 15 ∧
    verifyBib C03ex.toyP C03ex.toyStore C03ex.toyCrc C03ex.bundle
      { C03ex.secBlock [9, 9, 58] false with targets := [7] } = .raised := by
  decide +kernel

example : (certStore (fun r => if r = [1] then some ⟨true, some true, (7 : Nat)⟩ else if r = [2] then some ⟨true, none, 7⟩
      else if r = [3] then some ⟨true, some false, 7⟩ else if r = [4] then some ⟨false, some true, 7⟩ else none)) [1] = some 7 ∧
    ∀ r ∈ [[2], [3], [4], [5]],
      (certStore (fun r => if r = [1] then some ⟨true, some true, (7 : Nat)⟩ else if r = [2] then some ⟨true, none, 7⟩
        else if r = [3] then some ⟨true, some false, 7⟩ else if r = [4] then some ⟨false, some true, 7⟩ else none)) r = none := by
  decide

example : verifyBib C03ex.toyP C03ex.toyStore C03ex.toyCrc ⟨C03ex.prim, [C03ex.payload, { typeCode := 7, blockNum := 3 }, C03ex.bibBlk]⟩
    { C03ex.secBlock [9, 9, 58] false with targets := [1, 3] } = .raised := by
  decide +kernel

example : ∀ ts ∈ [[3, 1], [1, 3]],
    (match applyBib C03ex.toyP C03ex.toyCrc ⟨C03ex.prim, [C03ex.payload, { typeCode := 7, blockNum := 3, btsd := some [0] }]⟩
        C03ex.bibBlk (.dtn [0x2f, 0x2f, 0x6e]) [(0, 1), (-1, 1)] [0xa1, 1, 5] [1] [9, 9] ts with
     | none => false
     | some sb => sb.targets == ts && decide (verifyBib C03ex.toyP C03ex.toyStore C03ex.toyCrc
        ⟨C03ex.prim, [C03ex.payload, { typeCode := 7, blockNum := 3, btsd := some [0] }]⟩ sb = .ok)) = true := by
  decide +kernel

example : ∃ v, coveredView C03ex.toyCrc C03ex.ctx = some v ∧ ViewBounded v ∧ v.enc.length < 2 ^ 64 ∧
    (∀ d, C03ex.ctx.tgt.btsd = some d → d.length < 2 ^ 64) := by
  refine ⟨(coveredView C03ex.toyCrc C03ex.ctx).getD default, by decide +kernel,
    viewBoundedB_sound (by decide +kernel), by decide +kernel, ?_⟩
  intro d hd
  simp only [C03ex.ctx, C03ex.payload, Option.some.injEq] at hd
  subst hd
  decide

/-- The toy `mac` depends on the input length, which the alteration of the target data changes. -/
example : ∃ m, applyMac0 C03ex.toyP C03ex.toyCrc C03ex.ctx [0xa1, 1, 5] [1] [9, 9] = some m ∧
    verifyBibTarget C03ex.toyP C03ex.toyStore C03ex.toyCrc
      { C03ex.ctx with tgt := { C03ex.payload with btsd := some [1, 2, 3, 4] } } (m.attach [1, 2, 3, 4]) = false := by
  refine ⟨_, rfl, ?_⟩
  decide +kernel

end Props
end DtnVerif
