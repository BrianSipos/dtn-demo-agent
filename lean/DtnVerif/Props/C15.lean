/-
  C15  TCPCL enforces its TLS and peer-authentication policy.

  Model: Model/TlsPolicy.lean – `contactDecision` (merge_contact_params + the policy checks around
  `secure()`), `matchId` / `peerIdOf` (match_id over the type-filtered subjectAltName values),
  `authDecision` / `sessDecision` (merge_session_params) and `outcome` (what is written on the plain
  and on the TLS socket, state, close, escaped exception, reported authn fields). The TLS handshake,
  certificate chain validation and `ipaddress` parsing of the peer address are parameters.

  Specification: `C15spec` below – written from the property text and RFC 9174 §4.3 ("Enable TLS":
  AND of the two CAN_TLS flags, then local policy) and §4.4.3/§4.4.4 (per kind of identity claim:
  absent / success / failure; a failure, or an absence where policy requires authentication, ends
  the session with reason Contact Failure) – over *sets of presented identifiers*, not over the
  model's three-valued results.

  `Quirks.current` is the code as it is now; every theorem below is at full strength for it. Six
  former defects (D27 `ssl.match_hostname` missing; D13 uncompared DNS-ID counted as host
  authentication; peer without certificate; SESS_INIT received in the clear carried across the
  handshake; non-SSL `OSError` in the handshake; messages handled after `close()`) have been repaired
  in /repo. They stay expressible through the switches of `Quirks`; the former witnesses are kept as
  `example`s (now computing the correct outcome, and the old outcome under the old switch), and the
  check replays them on the implementation on every run.
  All certificates: the SAN list is an arbitrary `List GName`.
-/
import DtnVerif.Model.TlsPolicy
import DtnVerif.Lemmas.TlsPolicy
import DtnVerif.Generated.Facts
namespace DtnVerif
namespace Props
open TlsPolicy

/-- Constants and layouts of the source the model relies on. -/
theorem C15_facts :
    Facts.enum_contact_ContactV4_Flag_CAN_TLS = (canTlsBit : Int) ∧
    Facts.enum_tcpcl_SessionTerm_Reason_CONTACT_FAILURE = (reasonContactFailure : Int) ∧
    ("Head", "ContactV4", "version", 4) ∈ Facts.binds ∧
    ("MessageHead", "SessionInit", "msg_id", 7) ∈ Facts.binds ∧
    ("MessageHead", "SessionTerm", "msg_id", 5) ∈ Facts.binds ∧
    Facts.layouts.lookup "contact.ContactV4" = some [("FlagsField", "flags", "size=8")] ∧
    Facts.layouts.lookup "tcpcl.SessionTerm" = some [("FlagsField", "flags", "size=8"), ("ByteEnumField", "reason", "")] ∧
    Facts.dbusSigs.lookup "tcpcl.ContactHandler.get_session_parameters" = some ("method", "", "a{sv}") ∧
    Facts.dbusSigs.lookup "tcpcl.ContactHandler.get_session_state" = some ("method", "", "s") ∧
    Facts.dbusSigs.lookup "tcpcl.ContactHandler.session_state_changed" = some ("signal", "s", "") := by
  refine ⟨?_, ?_, ?_, ?_, ?_, ?_, ?_, ?_, ?_, ?_⟩ <;> decide +kernel

namespace C15spec

/-- RFC 9174 §4.3, "Enable TLS": the logical AND of the two contact headers' CAN_TLS flags. -/
def enableTls (thisOffers peerOffers : Bool) : Bool := thisOffers && peerOffers

def Acceptable (require : Option Bool) (enable : Bool) : Prop := ∀ r, require = some r → enable = r

/-- The facts of one negotiation (nothing here is a decision of the endpoint). -/
structure Situation where
  thisOffers : Bool
  peerOffers : Bool
  require : Option Bool
  requireHost : Bool
  requireNode : Bool
  handshakeOk : Bool
  /-- identifiers the peer's certificate presents (none when there is no certificate / no SAN) -/
  presented : List GName
  /-- address the peer is connected from / to -/
  addr : List UInt8
  /-- DNS name by which the peer was reached – only the connecting side has one, and only when it
      did not dial a literal address -/
  dnsName : Option String
  /-- node ID announced in the peer's SESS_INIT -/
  nodeId : String

def Situation.enable (s : Situation) : Bool := enableTls s.thisOffers s.peerOffers

/-- Some presented identifier contradicts the peer's address, DNS name or announced node ID:
    identifiers of that kind are presented and the peer's own value is not among them. -/
def Situation.Contradicted (s : Situation) : Prop :=
  ((∃ o, GName.ip o ∈ s.presented) ∧ GName.ip s.addr ∉ s.presented) ∨
  (∃ n, s.dnsName = some n ∧ (∃ d, GName.dns d ∈ s.presented) ∧ GName.dns n ∉ s.presented) ∨
  ((∃ u, GName.uri u ∈ s.presented) ∧ GName.uri s.nodeId ∉ s.presented)

/-- The host is authenticated: its address, or the DNS name it was reached by, is presented. -/
def Situation.HostAuthenticated (s : Situation) : Prop :=
  GName.ip s.addr ∈ s.presented ∨ ∃ n, s.dnsName = some n ∧ GName.dns n ∈ s.presented

def Situation.NodeAuthenticated (s : Situation) : Prop := GName.uri s.nodeId ∈ s.presented

def Situation.AuthAcceptable (s : Situation) : Prop :=
  ¬ s.Contradicted ∧ (s.requireHost = true → s.HostAuthenticated) ∧ (s.requireNode = true → s.NodeAuthenticated)

structure Observed where
  /-- a TLS handshake was started -/
  attempted : Bool
  /-- the session layer runs over TLS -/
  secured : Bool
  /-- a SESS_INIT was written without / with TLS -/
  initInClear : Bool
  initSecured : Bool
  established : Bool
  /-- reason codes of the SESS_TERM messages written -/
  termReasons : List Nat
  /-- the peer's SESS_INIT was taken out of the receive buffer -/
  decided : Bool
  /-- … and it had been received before the TLS handshake -/
  initFromPlaintext : Bool

/-- RFC 9174 reason code "Contact Failure". -/
def contactFailure : Nat := 4

structure Policy (s : Situation) (o : Observed) : Prop where
  /-- TLS is attempted exactly when both contact headers offer it (and local policy accepts that) -/
  attempt_iff : o.attempted = true ↔ (s.enable = true ∧ Acceptable s.require s.enable)
  /-- no SESS_INIT, no established session, unless the use of TLS is the negotiated and accepted one -/
  proceeds_ok : (o.initInClear = true ∨ o.initSecured = true ∨ o.established = true) →
    (Acceptable s.require s.enable ∧ o.secured = s.enable)
  init_clear : o.initInClear = true → s.enable = false
  init_secured : o.initSecured = true → (s.enable = true ∧ s.handshakeOk = true)
  /-- a node that requires TLS never proceeds in the clear -/
  require_never_clear : s.require = some true → (o.initInClear = false ∧ (o.established = true → o.secured = true))
  /-- one that forbids it never proceeds secured -/
  forbid_never_secured : s.require = some false → (o.secured = false ∧ o.initSecured = false ∧ o.attempted = false)
  /-- under TLS: established only if nothing contradicts and what is required is present and matches,
      and only on a SESS_INIT that itself arrived under TLS -/
  tls_established : o.established = true → o.secured = true → (s.AuthAcceptable ∧ o.initFromPlaintext = false)
  /-- otherwise the endpoint terminates with contact-failure -/
  tls_otherwise : o.secured = true → o.decided = true → ¬ s.AuthAcceptable →
    (o.established = false ∧ o.termReasons = [contactFailure])
  /-- (no over-rejection: a peer that meets the policy is accepted) -/
  tls_accepts : o.secured = true → o.decided = true → s.AuthAcceptable →
    (o.established = true ∧ o.termReasons = [])
  term_reason : ∀ r ∈ o.termReasons, r = contactFailure

end C15spec

open C15spec

def presentedBy (n : Conn) : List GName :=
  match n.cert with
  | some ⟨some l⟩ => l
  | _ => []

def situation (c : Cfg) (e : Env) (n : Conn) : Situation :=
  { thisOffers := c.tlsEnable
    peerOffers := e.peerFlags % 2 == 1
    require := c.requireTls
    requireHost := c.requireHost
    requireNode := c.requireNode
    handshakeOk := e.handshake == .ok
    presented := presentedBy n
    addr := n.sockOctets
    dnsName := if c.passive || n.peerName == n.sockAddr then none else some n.peerName
    nodeId := n.nodeId }

def termReasonsOf (ms : List Msg) : List Nat :=
  ms.filterMap fun m => match m with | .sessTerm r => some r | _ => none

def observe (o : Outcome) : Observed :=
  { attempted := o.attempted
    secured := o.isSecure
    initInClear := decide (Msg.sessInit ∈ o.clear)
    initSecured := decide (Msg.sessInit ∈ o.secured)
    established := decide (o.state = .established)
    termReasons := termReasonsOf (o.clear ++ o.secured)
    decided := o.sess.delivered
    initFromPlaintext := o.initFromPlaintext }

/-- No certificate and no subjectAltName extension both count as the empty list. -/
private theorem peerIdOf_ids (c : Cfg) (n : Conn) :
    (peerIdOf c n).ip = matchId (some n.sockOctets) (some (ipValues (presentedBy n))) ∧
    (peerIdOf c n).dns = matchId (peerDnsid c n) (some (dnsValues (presentedBy n))) ∧
    (peerIdOf c n).node = matchId (some n.nodeId) (some (uriValues (presentedBy n))) := by
  unfold peerIdOf presentedBy
  rcases n.cert with _ | ⟨_ | l⟩ <;> exact ⟨rfl, rfl, rfl⟩

/-- IPADDR-ID: the model's three results say exactly what the certificate presents. -/
theorem C15_abstraction_ip (c : Cfg) (n : Conn) :
    ((peerIdOf c n).ip = .absent ↔ ¬ ∃ o, GName.ip o ∈ presentedBy n) ∧
    ((peerIdOf c n).ip = .matched ↔ GName.ip n.sockOctets ∈ presentedBy n) ∧
    ((peerIdOf c n).ip = .mismatch ↔ ((∃ o, GName.ip o ∈ presentedBy n) ∧ GName.ip n.sockOctets ∉ presentedBy n)) := by
  rw [(peerIdOf_ids c n).1]
  simpa [ipValues] using matchId_filterMap (mk := GName.ip) (by intro g a; cases g <;> simp) (some n.sockOctets) (presentedBy n)

/-- NODE-ID (URI). -/
theorem C15_abstraction_node (c : Cfg) (n : Conn) :
    ((peerIdOf c n).node = .absent ↔ ¬ ∃ u, GName.uri u ∈ presentedBy n) ∧
    ((peerIdOf c n).node = .matched ↔ GName.uri n.nodeId ∈ presentedBy n) ∧
    ((peerIdOf c n).node = .mismatch ↔ ((∃ u, GName.uri u ∈ presentedBy n) ∧ GName.uri n.nodeId ∉ presentedBy n)) := by
  rw [(peerIdOf_ids c n).2.2]
  simpa [uriValues] using matchId_filterMap (mk := GName.uri) (by intro g a; cases g <;> simp) (some n.nodeId) (presentedBy n)

/-- DNS-ID: the reference is `peer_dnsid`, which may be missing (listening side, literal address):
    then a DNS-ID can only be absent or "mismatch" – never matched. -/
theorem C15_abstraction_dns (c : Cfg) (n : Conn) :
    ((peerIdOf c n).dns = .absent ↔ ¬ ∃ d, GName.dns d ∈ presentedBy n) ∧
    ((peerIdOf c n).dns = .matched ↔ ∃ name, peerDnsid c n = some name ∧ GName.dns name ∈ presentedBy n) ∧
    ((peerIdOf c n).dns = .mismatch ↔
      ((∃ d, GName.dns d ∈ presentedBy n) ∧ ∀ name, peerDnsid c n = some name → GName.dns name ∉ presentedBy n)) := by
  rw [(peerIdOf_ids c n).2.1]
  exact matchId_filterMap (mk := GName.dns) (by intro g a; cases g <;> simp) (peerDnsid c n) (presentedBy n)

example : (peerIdOf ⟨false, true, none, true, true⟩
    ⟨"peer.example.org", "192.0.2.1", [192, 0, 2, 1], "dtn://peer/",
     some ⟨some [.dns "a.example", .ip [192, 0, 2, 1], .other, .uri "dtn://other/", .dns "peer.example.org"]⟩⟩)
    = ⟨true, true, .matched, .matched, .mismatch⟩ := by decide +kernel

def ctOf (q : Quirks) (c : Cfg) (e : Env) : Contact :=
  contactDecision q.handshakeOsEscapes c.requireTls c.tlsEnable (offersTls e.peerFlags) e.handshake

private theorem outcome_eq (q : Quirks) (c : Cfg) (e : Env) (p : PeerId) :
    outcome q c e p = render c e p (ctOf q c e) (sessDecision q c e p (ctOf q c e)) := rfl

/-- `flags & CAN_TLS` is bit 0 of the octet. -/
theorem C15_offers_is_bit0 (f : Nat) : offersTls f = (f % 2 == 1) := by
  have h : f &&& 1 = f % 2 := Nat.and_one_is_mod f
  unfold offersTls canTlsBit
  rw [h]
  rcases Nat.mod_two_eq_zero_or_one f with h2 | h2 <;> simp [h2]

private theorem proceeds_cases (q : Quirks) (c : Cfg) (e : Env) (p : PeerId) (ct : Contact) (ss : Sess)
    (hct : ctOf q c e = ct) (hss : sessDecision q c e p ct = ss)
    (h : Msg.sessInit ∈ (render c e p ct ss).clear ∨ Msg.sessInit ∈ (render c e p ct ss).secured ∨
         ss = .established ∨ ∃ r, ss = .terminated r) :
    (ct = .proceedClear ∨ ct = .proceedTls) ∧ (c.tlsEnable && offersTls e.peerFlags) = ct.isTls ∧
    c.requireTls ≠ some (!ct.isTls) ∧ (ct = .proceedTls → e.handshake = .ok) := by
  have hcl : ct = .proceedClear ∨ ct = .proceedTls := by
    rcases h with h | h | h | ⟨r, h⟩
    · exact Or.inl (render_sessInit_clear c e p ct ss h)
    · exact Or.inr (render_sessInit_secured c e p ct ss h)
    · exact sessDecision_established q c e p ct (hss.trans h)
    · exact Or.inr (sessDecision_terminated q c e p ct r (hss.trans h)).1
  refine ⟨hcl, ?_⟩
  rcases hcl with hc | hc
  · obtain ⟨hb, hr⟩ := (contactDecision_proceedClear_iff _ _ _ _ _).mp (hct.trans hc)
    rw [hc]
    exact ⟨hb, hr, fun h => nomatch h⟩
  · obtain ⟨hb, hh, hr⟩ := (contactDecision_proceedTls_iff _ _ _ _ _).mp (hct.trans hc)
    rw [hc]
    exact ⟨hb, hr, fun _ => hh⟩

/-- **TLS is attempted exactly when both contact headers offer it** – for every configuration, every
    flags octet of the peer, every handshake result: the handshake is started iff our header carries
    CAN_TLS (`tls_enable`), the peer's carries it (bit 0), and `require_tls` is not `False` (a node
    that forbids TLS closes instead, see `C15_forbid_never_tls`). -/
theorem C15_attempt_iff_both (q : Quirks) (c : Cfg) (e : Env) (p : PeerId) :
    (outcome q c e p).attempted = true ↔
      (c.tlsEnable = true ∧ e.peerFlags % 2 = 1 ∧ c.requireTls ≠ some false) := by
  rw [outcome_eq, render_attempted, ctOf, contactDecision_attempted, C15_offers_is_bit0]
  rcases c.requireTls with _ | _ | _ <;> simp

example : (outcome Quirks.current ⟨true, true, none, false, false⟩ ⟨0xff, .sslError, false, false⟩
    ⟨true, false, .absent, .absent, .absent⟩).attempted = true := by decide +kernel

/-- **A node that requires TLS never proceeds in the clear**: no SESS_INIT on the plain socket, the
    contact stage never ends in "proceed without TLS", and an established session is a TLS session. -/
theorem C15_require_never_clear (q : Quirks) (c : Cfg) (e : Env) (p : PeerId)
    (h : c.requireTls = some true) :
    Msg.sessInit ∉ (outcome q c e p).clear ∧
    (outcome q c e p).contact ≠ .proceedClear ∧
    ((outcome q c e p).state = .established → (outcome q c e p).isSecure = true) := by
  rw [outcome_eq]
  generalize hct : ctOf q c e = ct
  generalize hss : sessDecision q c e p ct = ss
  have hnc : ct ≠ .proceedClear := by
    intro hc
    exact ((contactDecision_proceedClear_iff _ _ _ _ _).mp (hct.trans hc)).2 h
  refine ⟨fun hm => hnc (render_sessInit_clear c e p ct ss hm), hnc, ?_⟩
  intro hst
  have hse := (render_state_established c e p ct ss).mp hst
  rcases sessDecision_established q c e p ct (hss.trans hse) with hc | hc
  · exact absurd hc hnc
  · exact (render_isSecure c e p ct ss).mpr hc

example : (outcome Quirks.current ⟨false, true, some true, false, false⟩ ⟨1, .ok, false, true⟩
    ⟨true, true, .matched, .matched, .matched⟩).state = .established := by decide +kernel

private theorem not_attempted (q : Quirks) (c : Cfg) (e : Env) (p : PeerId)
    (h : (c.tlsEnable && offersTls e.peerFlags && (c.requireTls != some false)) = false) :
    (outcome q c e p).attempted = false ∧ (outcome q c e p).isSecure = false ∧
    (outcome q c e p).secured = [] := by
  have ha : (ctOf q c e).attempted = false := (contactDecision_attempted _ _ _ _ _).trans h
  have hnt : ctOf q c e ≠ .proceedTls := fun hc => by
    rw [hc] at ha
    cases ha
  exact ⟨ha, Bool.eq_false_iff.mpr fun hs => hnt ((render_isSecure _ _ _ _ _).mp hs),
    render_secured_nil _ _ _ _ _ hnt⟩

/-- **A node that forbids TLS never proceeds secured**: no handshake is started, nothing is ever
    written to a TLS socket, `is_secure()` stays false. -/
theorem C15_forbid_never_tls (q : Quirks) (c : Cfg) (e : Env) (p : PeerId)
    (h : c.requireTls = some false) :
    (outcome q c e p).attempted = false ∧ (outcome q c e p).isSecure = false ∧
    (outcome q c e p).secured = [] := by
  refine not_attempted q c e p ?_
  rw [h]
  exact Bool.and_false _

example : (outcome Quirks.current ⟨true, true, some false, false, false⟩ ⟨1, .ok, false, true⟩
    ⟨true, false, .matched, .absent, .matched⟩).closed = true := by decide +kernel

/-- **No SESS_INIT is sent and no session is established (or terminated) unless the use of TLS
    matches the configured requirement**: whenever a SESS_INIT is on either socket or the state is
    `established` / `ending`, the TLS state is the AND of the two CAN_TLS flags, it equals
    `require_tls` when that is set, a SESS_INIT in the clear means TLS was not negotiated and a
    SESS_INIT under TLS means the handshake succeeded. -/
theorem C15_no_init_before_policy (q : Quirks) (c : Cfg) (e : Env) (p : PeerId)
    (h : Msg.sessInit ∈ (outcome q c e p).clear ∨ Msg.sessInit ∈ (outcome q c e p).secured ∨
         (outcome q c e p).state = .established ∨ (outcome q c e p).state = .ending) :
    (outcome q c e p).isSecure = (c.tlsEnable && (e.peerFlags % 2 == 1)) ∧
    (∀ r, c.requireTls = some r → (outcome q c e p).isSecure = r) ∧
    (Msg.sessInit ∈ (outcome q c e p).clear → (outcome q c e p).isSecure = false) ∧
    (Msg.sessInit ∈ (outcome q c e p).secured → e.handshake = .ok) ∧
    (outcome q c e p).closed = false := by
  rw [outcome_eq] at h ⊢
  generalize hct : ctOf q c e = ct at h ⊢
  generalize hss : sessDecision q c e p ct = ss at h ⊢
  rw [render_state_established, render_state_ending] at h
  rw [← C15_offers_is_bit0]
  obtain ⟨hcl, hb, hr, hh⟩ := proceeds_cases q c e p ct ss hct hss h
  refine ⟨hb.symm, fun r hreq => ?_, fun hm => ?_,
    fun hm => hh (render_sessInit_secured _ _ _ _ _ hm), ?_⟩
  · refine Decidable.byContradiction fun (hne : ¬ct.isTls = r) => hr ?_
    rw [hreq, Bool.eq_not.mpr (Ne.symm hne)]
  · rw [render_sessInit_clear _ _ _ _ _ hm]
    rfl
  · rcases hcl with rfl | rfl <;> rfl

example : Msg.sessInit ∈ (outcome Quirks.current ⟨true, false, none, true, true⟩ ⟨0, .ok, false, false⟩
    ⟨true, false, .absent, .absent, .absent⟩).clear := by decide +kernel

/-- Without TLS nothing is ever reported as authenticated. -/
theorem C15_clear_reports_no_authn (q : Quirks) (c : Cfg) (e : Env) (p : PeerId) (r : Params)
    (hs : (outcome q c e p).isSecure = false) (hp : (outcome q c e p).params = some r) :
    r.ip = .absent ∧ r.dns = .absent ∧ r.node = .absent := by
  rw [outcome_eq] at hs hp
  have hs' : (ctOf q c e).isTls = false := hs
  simp only [render, hs', Bool.false_and] at hp
  split at hp
  · cases hp
    exact ⟨rfl, rfl, rfl⟩
  · cases hp

/-- The region in which the code before b2a96b5 did not enforce `require_host_authn` (D13): host
    authentication required, no DNS name of the peer known (listening side, or a literal address was
    dialled), and the certificate presents DNS-IDs but no IPADDR-ID. -/
def d13Region (c : Cfg) (n : Conn) : Bool :=
  c.requireHost && !(dnsKnown c n) && (ipValues (presentedBy n)).isEmpty && !(dnsValues (presentedBy n)).isEmpty

private theorem dnsName_eq (c : Cfg) (e : Env) (n : Conn) : (situation c e n).dnsName = peerDnsid c n := by
  simp only [situation, peerDnsid]
  cases c.passive <;> simp

private theorem peerDnsid_cases (c : Cfg) (n : Conn) : peerDnsid c n = none ∨ peerDnsid c n = some n.peerName := by
  unfold peerDnsid
  split
  · exact Or.inl rfl
  · split
    · exact Or.inl rfl
    · exact Or.inr rfl

private theorem dnsKnown_iff (c : Cfg) (n : Conn) (hname : n.peerName ≠ "") :
    dnsKnown c n = true ↔ ∃ name, peerDnsid c n = some name := by
  unfold dnsKnown
  rcases peerDnsid_cases c n with h | h <;> rw [h] <;> simp [hname]

private theorem peerIdOf_dnsKnown (c : Cfg) (n : Conn) : (peerIdOf c n).dnsKnown = dnsKnown c n := by
  unfold peerIdOf
  split <;> rfl

private theorem peerIdOf_cert (c : Cfg) (n : Conn) (h : n.cert ≠ none) : (peerIdOf c n).certPresent = true := by
  cases hc : n.cert with
  | none => exact absurd hc h
  | some cert => rw [peerIdOf, hc]

private theorem peerIdOf_absent (c : Cfg) (n : Conn) (h : (peerIdOf c n).certPresent = false) :
    (peerIdOf c n).ip = .absent ∧ (peerIdOf c n).dns = .absent ∧ (peerIdOf c n).node = .absent := by
  cases hc : n.cert with
  | none =>
    rw [peerIdOf, hc]
    exact ⟨rfl, rfl, rfl⟩
  | some cert =>
    rw [peerIdOf, hc] at h
    cases h

/-- The decision table of `merge_session_params` against the specification's reading, in terms of
    the three-valued results: only the host clause differs. `h7`: a DNS-ID match needs a reference.
    `hd`: outside the D13 region (only relevant while an unchecked DNS-ID counts). -/
private theorem auth_table (u k rh rn : Bool) (ip dns node : IdResult)
    (h7 : dns = .matched → k = true)
    (hd : u = true → rh = true → k = false → dns ≠ .absent → ip ≠ .absent) :
    authDecision u ip dns node k rh rn = .establish ↔
      (¬ (ip = .mismatch ∨ (k = true ∧ dns = .mismatch) ∨ node = .mismatch) ∧
       (rh = true → (ip = .matched ∨ dns = .matched)) ∧ (rn = true → node = .matched)) := by
  rw [authDecision_establish_iff]
  refine and_congr_right fun hno => and_congr_left' (imp_congr_right fun hrh => ?_)
  constructor
  · rintro (h | ⟨hda, huk⟩)
    · exact Or.inl h
    · cases hk : k
      · -- a DNS-ID without reference counts only under the former quirk: then the address matches
        have hu : u = true := huk.resolve_right (by simp [hk])
        exact Or.inl (IdResult.eq_matched (hd hu hrh hk hda) fun h => hno (Or.inl h))
      · exact Or.inr (IdResult.eq_matched hda fun h => hno (Or.inr (Or.inl ⟨hk, h⟩)))
  · rintro (h | h)
    · exact Or.inl h
    · exact Or.inr ⟨by rw [h]; decide, Or.inr (h7 h)⟩

private theorem d13Region_eq (c : Cfg) (n : Conn) :
    d13Region c n = (c.requireHost && !(dnsKnown c n) && ((peerIdOf c n).ip == .absent) &&
      ((peerIdOf c n).dns != .absent)) := by
  unfold d13Region
  rw [(peerIdOf_ids c n).1, (peerIdOf_ids c n).2.1]
  simp only [bne, matchId_some_beq_absent]

private theorem contradicted_iff (c : Cfg) (e : Env) (n : Conn) (hname : n.peerName ≠ "") :
    (situation c e n).Contradicted ↔
      ((peerIdOf c n).ip = .mismatch ∨ ((peerIdOf c n).dnsKnown = true ∧ (peerIdOf c n).dns = .mismatch) ∨
        (peerIdOf c n).node = .mismatch) := by
  rw [(C15_abstraction_ip c n).2.2, (C15_abstraction_node c n).2.2, (C15_abstraction_dns c n).2.2,
    peerIdOf_dnsKnown, dnsKnown_iff c n hname, ← dnsName_eq c e n]
  refine or_congr Iff.rfl (or_congr ?_ Iff.rfl)
  constructor
  · rintro ⟨nm, hnm, hex, hno⟩
    refine ⟨⟨nm, hnm⟩, hex, fun name h => ?_⟩
    cases hnm.symm.trans h
    exact hno
  · rintro ⟨⟨nm, hnm⟩, hex, hall⟩
    exact ⟨nm, hnm, hex, hall nm hnm⟩

private theorem hostAuth_iff (c : Cfg) (e : Env) (n : Conn) :
    (situation c e n).HostAuthenticated ↔ ((peerIdOf c n).ip = .matched ∨ (peerIdOf c n).dns = .matched) := by
  rw [(C15_abstraction_ip c n).2.1, (C15_abstraction_dns c n).2.1, ← dnsName_eq c e n]
  exact Iff.rfl

private theorem nodeAuth_iff (c : Cfg) (e : Env) (n : Conn) :
    (situation c e n).NodeAuthenticated ↔ (peerIdOf c n).node = .matched :=
  (C15_abstraction_node c n).2.1.symm

private theorem auth_iff (q : Quirks) (c : Cfg) (e : Env) (n : Conn) (hname : n.peerName ≠ "")
    (hD13 : q.uncheckedDnsCounts = true → d13Region c n = false) :
    authDecision q.uncheckedDnsCounts (peerIdOf c n).ip (peerIdOf c n).dns (peerIdOf c n).node
        (peerIdOf c n).dnsKnown c.requireHost c.requireNode = .establish ↔
      (situation c e n).AuthAcceptable := by
  unfold Situation.AuthAcceptable
  rw [contradicted_iff c e n hname, hostAuth_iff, nodeAuth_iff]
  refine auth_table _ _ _ _ _ _ _ (fun hm => ?_) (fun hu hrh hk hda hia => ?_)
  · rw [peerIdOf_dnsKnown, dnsKnown_iff c n hname]
    obtain ⟨name, hn, _⟩ := (C15_abstraction_dns c n).2.1.mp hm
    exact ⟨name, hn⟩
  · have := hD13 hu
    rw [peerIdOf_dnsKnown] at hk
    simp [d13Region_eq, hrh, hk, hia, hda] at this

def AuthSound (q : Quirks) : Prop :=
  ∀ (c : Cfg) (e : Env) (n : Conn), n.peerName ≠ "" →
    (outcomeC q c e n).state = .established → (outcomeC q c e n).isSecure = true →
    (situation c e n).AuthAcceptable

private theorem outcomeC_secure (q : Quirks) (c : Cfg) (e : Env) (n : Conn)
    (hsec : (outcomeC q c e n).isSecure = true) :
    outcomeC q c e n =
      render c e (peerIdOf c n) .proceedTls (sessDecision q c e (peerIdOf c n) .proceedTls) := by
  unfold outcomeC at hsec ⊢
  rw [outcome_eq] at hsec ⊢
  rw [(render_isSecure _ _ _ _ _).mp hsec]

private theorem established_tls (q : Quirks) (c : Cfg) (e : Env) (n : Conn)
    (hst : (outcomeC q c e n).state = .established) (hsec : (outcomeC q c e n).isSecure = true) :
    authDecision q.uncheckedDnsCounts (peerIdOf c n).ip (peerIdOf c n).dns (peerIdOf c n).node
        (peerIdOf c n).dnsKnown c.requireHost c.requireNode = .establish ∧
    (e.pipelined = true → q.carriesPlaintext = true) := by
  rw [outcomeC_secure q c e n hsec] at hst
  exact sessDecision_tls_established q c e (peerIdOf c n) (peerIdOf_absent c n)
    ((render_state_established _ _ _ _ _).mp hst)

/-- **Under TLS the session is established only if no identifier presented in the peer certificate
    contradicts the peer's address, DNS name or announced node ID** – every configuration, every
    certificate (arbitrary SAN list), both sides (stated for any setting of the former quirk switches,
    `Quirks.current` included). -/
theorem C15_no_contradiction (q : Quirks) (c : Cfg) (e : Env) (n : Conn) (hname : n.peerName ≠ "")
    (hst : (outcomeC q c e n).state = .established) (hsec : (outcomeC q c e n).isSecure = true) :
    ¬ (situation c e n).Contradicted := by
  rw [contradicted_iff c e n hname]
  exact ((authDecision_establish_iff _ _ _ _ _ _ _).mp (established_tls q c e n hst hsec).1).1

/-- **When node authentication is required, established only if the node ID is present in the
    certificate and matches** – every certificate (any setting of the former quirk switches). -/
theorem C15_required_node_present_and_matches (q : Quirks) (c : Cfg) (e : Env) (n : Conn)
    (hst : (outcomeC q c e n).state = .established) (hsec : (outcomeC q c e n).isSecure = true)
    (hreq : c.requireNode = true) :
    GName.uri n.nodeId ∈ presentedBy n := by
  have hA := (established_tls q c e n hst hsec).1
  rw [authDecision_establish_iff] at hA
  exact (C15_abstraction_node c n).2.1.mp (hA.2.2 hreq)

/-- Both authentication sentences at once: **under TLS the session is established only if the
    specification accepts the peer** (nothing contradicts, what is required is present and matches). -/
theorem C15_established_only_if_acceptable : AuthSound Quirks.current := by
  intro c e n hname hst hsec
  exact (auth_iff Quirks.current c e n hname (fun h => by cases h)).mp (established_tls Quirks.current c e n hst hsec).1

def HostAuthnEnforced (q : Quirks) : Prop :=
  ∀ (c : Cfg) (e : Env) (n : Conn), n.peerName ≠ "" →
    (outcomeC q c e n).state = .established → (outcomeC q c e n).isSecure = true →
    c.requireHost = true → (situation c e n).HostAuthenticated

/-- **When host authentication is required, established only if the peer's address, or the DNS name
    it was reached by, is present in the certificate and matches** – every configuration, both sides,
    every certificate. (A DNS-ID that could not be compared – listening side, literal address
    dialled – authenticates nothing.) -/
theorem C15_required_host_present_and_matches : HostAuthnEnforced Quirks.current := by
  intro c e n hname hst hsec
  exact (C15_established_only_if_acceptable c e n hname hst hsec).2.1

/-- Former D13 witness: listening side, `require_tls`, `require_host_authn`, peer 192.0.2.1 presenting
    a certificate whose only identifier is the DNS name of somebody else. -/
def d13Cfg : Cfg := ⟨true, true, some true, true, false⟩
def d13Env : Env := ⟨1, .ok, false, true⟩
def d13Conn : Conn := ⟨"192.0.2.1", "192.0.2.1", [192, 0, 2, 1], "dtn://peer/", some ⟨some [.dns "evil.example.net"]⟩⟩

/-- now turned away with contact failure … -/
example : (outcomeC Quirks.current d13Cfg d13Env d13Conn).secured = [.sessInit, .sessTerm 4] ∧
    (outcomeC Quirks.current d13Cfg d13Env d13Conn).state = .ending := by decide +kernel
/-- … whereas the old logic established it with nothing authenticated (regression instance) -/
example : (outcomeC { Quirks.current with uncheckedDnsCounts := true } d13Cfg d13Env d13Conn).params
    = some ⟨false, .absent, .mismatch, .absent⟩ ∧ d13Region d13Cfg d13Conn = true := by decide +kernel
/-- hypotheses met non-trivially: the same listener accepts a certificate carrying the peer address -/
example : (outcomeC Quirks.current d13Cfg d13Env
      { d13Conn with cert := some ⟨some [.dns "evil.example.net", .ip [192, 0, 2, 1]]⟩ }).state = .established := by
  decide +kernel

private theorem termReasonsOf_render (c : Cfg) (e : Env) (p : PeerId) (ct : Contact) (ss : Sess) :
    termReasonsOf ((render c e p ct ss).clear ++ (render c e p ct ss).secured) =
      if ct = .proceedTls then termReasonsOf ss.termOut else [] := by
  have hclear : termReasonsOf (render c e p ct ss).clear = [] := by
    refine List.filterMap_eq_nil_iff.mpr fun m hm => ?_
    rcases render_clear_mem c e p ct ss m hm with h | h
    · rw [h]
    · rw [h.1]
  unfold termReasonsOf at hclear ⊢
  rw [List.filterMap_append, hclear, List.nil_append]
  split
  · rename_i h
    rw [h, render_secured_tls, List.filterMap_append]
    split <;> rfl
  · rename_i h
    rw [render_secured_nil c e p ct ss h]
    rfl

private theorem termReasons_mem (c : Cfg) (e : Env) (p : PeerId) (ct : Contact) (ss : Sess) (r : Nat)
    (h : r ∈ termReasonsOf ((render c e p ct ss).clear ++ (render c e p ct ss).secured)) :
    ct = .proceedTls ∧ ss = .terminated r := by
  rw [termReasonsOf_render] at h
  split at h
  · rename_i hct
    refine ⟨hct, ?_⟩
    cases ss <;> simp [termReasonsOf, Sess.termOut] at h
    rw [h]
  · cases h

def Decides (q : Quirks) : Prop :=
  ∀ (c : Cfg) (e : Env) (n : Conn),
    (outcomeC q c e n).isSecure = true → (outcomeC q c e n).sess.delivered = true →
    ((outcomeC q c e n).state = .established ∨
     ((outcomeC q c e n).state = .ending ∧ Msg.sessTerm contactFailure ∈ (outcomeC q c e n).secured))

private theorem delivered_tls (q : Quirks) (c : Cfg) (e : Env) (n : Conn)
    (hNative : q.callsNative = true → e.nativeMatch = true)
    (hCert : q.noCertRaises = true → n.cert ≠ none)
    (hsec : (outcomeC q c e n).isSecure = true) (hdel : (outcomeC q c e n).sess.delivered = true) :
    outcomeC q c e n = render c e (peerIdOf c n) .proceedTls
      (if authDecision q.uncheckedDnsCounts (peerIdOf c n).ip (peerIdOf c n).dns (peerIdOf c n).node
          (peerIdOf c n).dnsKnown c.requireHost c.requireNode = .establish
        then .established else .terminated reasonContactFailure) := by
  rw [outcomeC_secure q c e n hsec] at hdel ⊢
  rw [sessDecision_tls_safe q c e _ (peerIdOf_absent c n) hNative
    (fun h => peerIdOf_cert c n (hCert h))] at hdel ⊢
  split at hdel
  · cases hdel
  · rename_i h1
    rw [if_neg h1]

/-- **Otherwise the endpoint terminates with contact-failure**: under TLS, once the peer's SESS_INIT
    has been taken out of the receive buffer, the endpoint either establishes the session or sends
    SESS_TERM(contact failure) and is `ending` – every configuration, every certificate, also for a
    peer that presented no certificate at all. -/
theorem C15_decides : Decides Quirks.current := by
  intro c e n hsec hdel
  rw [delivered_tls Quirks.current c e n (fun h => by cases h) (fun h => by cases h) hsec hdel]
  split
  · exact Or.inl rfl
  · exact Or.inr ⟨rfl, (render_sessTerm_secured c e _ _ _).mpr rfl⟩

/-- Former D27 witness: connecting side, everything required, a certificate in which the address, the
    DNS name and the node ID all match – on an interpreter without `ssl.match_hostname`. -/
def d27Cfg : Cfg := ⟨false, true, some true, true, true⟩
def d27Env : Env := ⟨1, .ok, false, false⟩
def d27Conn : Conn := ⟨"peer.example.org", "192.0.2.1", [192, 0, 2, 1], "dtn://peer/",
  some ⟨some [.ip [192, 0, 2, 1], .dns "peer.example.org", .uri "dtn://peer/"]⟩⟩

/-- now established with all three identifiers authenticated, whatever the interpreter … -/
example : (outcomeC Quirks.current d27Cfg d27Env d27Conn).params = some ⟨true, .matched, .matched, .matched⟩ ∧
    (outcomeC Quirks.current d27Cfg d27Env d27Conn).escaped = [] := by decide +kernel
/-- … whereas the old code died with `AttributeError` (regression instance) -/
example : (outcomeC { Quirks.current with callsNative := true } d27Cfg d27Env d27Conn).escaped = [.attributeError] := by
  decide +kernel
/-- hypotheses of `C15_no_contradiction`, `C15_required_node_present_and_matches`,
    `C15_required_host_present_and_matches`, `C15_init_under_tls` are met by this peer -/
example : (outcomeC Quirks.current d27Cfg d27Env d27Conn).state = .established ∧
    (outcomeC Quirks.current d27Cfg d27Env d27Conn).isSecure = true ∧
    d27Conn.peerName ≠ "" ∧ d27Cfg.requireNode = true ∧ d27Cfg.requireHost = true := by decide +kernel
/-- the terminating branch of `C15_decides`: a certificate for another address -/
example : (outcomeC Quirks.current d27Cfg d27Env
      { d27Conn with cert := some ⟨some [.ip [192, 0, 2, 99], .dns "peer.example.org", .uri "dtn://peer/"]⟩ }).secured
    = [.sessInit, .sessTerm 4] := by decide +kernel
/-- peer without a certificate (`CERT_OPTIONAL`): every identifier absent – established when nothing is
    required, contact failure when something is; formerly `TypeError` (regression instance) -/
example :
    (outcomeC Quirks.current ⟨true, true, none, false, false⟩ ⟨1, .ok, false, false⟩
      ⟨"192.0.2.1", "192.0.2.1", [192, 0, 2, 1], "dtn://peer/", none⟩).state = .established ∧
    (outcomeC Quirks.current ⟨true, true, none, false, true⟩ ⟨1, .ok, false, false⟩
      ⟨"192.0.2.1", "192.0.2.1", [192, 0, 2, 1], "dtn://peer/", none⟩).secured = [.sessInit, .sessTerm 4] ∧
    (outcomeC { Quirks.current with noCertRaises := true } ⟨true, true, none, false, false⟩ ⟨1, .ok, false, false⟩
      ⟨"192.0.2.1", "192.0.2.1", [192, 0, 2, 1], "dtn://peer/", none⟩).escaped = [.typeError] := by decide +kernel

def InitUnderTls (q : Quirks) : Prop :=
  ∀ (c : Cfg) (e : Env) (n : Conn),
    (outcomeC q c e n).state = .established → (outcomeC q c e n).isSecure = true →
    (outcomeC q c e n).initFromPlaintext = false

private theorem initUnderTls_of (q : Quirks) (c : Cfg) (e : Env) (n : Conn)
    (hPlain : q.carriesPlaintext = true → e.pipelined = false)
    (hst : (outcomeC q c e n).state = .established) (hsec : (outcomeC q c e n).isSecure = true) :
    (outcomeC q c e n).initFromPlaintext = false := by
  have hp := (established_tls q c e n hst hsec).2
  have : e.pipelined = false := by
    cases hpp : e.pipelined
    · rfl
    · have hf := hPlain (hp hpp)
      rw [hf] at hpp
      cases hpp
  show (_ && e.pipelined && _) = false
  rw [this, Bool.and_false, Bool.false_and]

/-- **An established TLS session rests on a SESS_INIT that arrived under TLS**: octets received in the
    clear ahead of the handshake (same read as the contact header) are never acted upon. -/
theorem C15_init_under_tls : InitUnderTls Quirks.current := by
  intro c e n hst hsec
  exact initUnderTls_of Quirks.current c e n (fun h => by cases h) hst hsec

/-- Former plaintext-injection witness: listening side with `require_tls`; contact header and SESS_INIT
    in one read, then a successful handshake. Now the early SESS_INIT is discarded (nothing is sent,
    the endpoint waits for one under TLS); formerly the session was established on it. -/
example :
    (outcomeC Quirks.current ⟨true, true, some true, false, false⟩ ⟨1, .ok, true, false⟩
      ⟨"192.0.2.1", "192.0.2.1", [192, 0, 2, 1], "dtn://peer/", some ⟨some [.ip [192, 0, 2, 1]]⟩⟩).state
      = .sessionNegotiating ∧
    (outcomeC Quirks.current ⟨true, true, some true, false, false⟩ ⟨1, .ok, true, false⟩
      ⟨"192.0.2.1", "192.0.2.1", [192, 0, 2, 1], "dtn://peer/", some ⟨some [.ip [192, 0, 2, 1]]⟩⟩).secured = [] ∧
    (outcomeC { Quirks.current with carriesPlaintext := true } ⟨true, true, some true, false, false⟩ ⟨1, .ok, true, false⟩
      ⟨"192.0.2.1", "192.0.2.1", [192, 0, 2, 1], "dtn://peer/", some ⟨some [.ip [192, 0, 2, 1]]⟩⟩).initFromPlaintext
      = true := by decide +kernel

def ContactDecides (q : Quirks) : Prop :=
  ∀ (c : Cfg) (e : Env) (p : PeerId), (outcome q c e p).contact ≠ .wedged

private theorem contact_decides_of (q : Quirks) (hOs : q.handshakeOsEscapes = false) : ContactDecides q := by
  intro c e p (h : ctOf q c e = .wedged)
  have := ((contactDecision_wedged_iff _ _ _ _ _).mp h).2.2.1
  rw [hOs] at this
  cases this

/-- **The contact stage decides**: it ends in proceed-clear, proceed-TLS or close, for every handshake
    result (also an `OSError` that is not an `ssl.SSLError`). -/
theorem C15_contact_decides : ContactDecides Quirks.current :=
  contact_decides_of Quirks.current rfl

/-- Former witness: connection reset during the handshake – now closed; formerly the exception left
    `recv_message` and the endpoint was neither closed nor reading. -/
example :
    (outcome Quirks.current ⟨false, true, none, false, false⟩ ⟨1, .osError, false, false⟩
      ⟨true, false, .matched, .absent, .absent⟩).contact = .close true ∧
    (outcome { Quirks.current with handshakeOsEscapes := true } ⟨false, true, none, false, false⟩
      ⟨1, .osError, false, false⟩ ⟨true, false, .matched, .absent, .absent⟩).escaped = [.osError] := by decide +kernel

private theorem no_escape_of (q : Quirks) (c : Cfg) (e : Env) (n : Conn)
    (hOs : q.handshakeOsEscapes = false) (hAfter : q.handlesAfterClose = false)
    (hNative : q.callsNative = true → e.nativeMatch = true)
    (hCert : q.noCertRaises = true → n.cert ≠ none) :
    (outcomeC q c e n).escaped = [] := by
  unfold outcomeC
  rw [outcome_eq]
  generalize hct : ctOf q c e = ct
  cases ct with
  | wedged => exact absurd hct (contact_decides_of q hOs c e (peerIdOf c n))
  | proceedClear => rfl
  | close a =>
    show (if (e.pipelined && q.handlesAfterClose) = true then Sess.escaped .attributeError
      else .notDelivered).escapes = []
    rw [hAfter, Bool.and_false]
    rfl
  | proceedTls =>
    show (sessDecision q c e (peerIdOf c n) .proceedTls).escapes = []
    rw [sessDecision_tls_safe q c e _ (peerIdOf_absent c n) hNative (fun h => peerIdOf_cert c n (hCert h))]
    split
    · rfl
    · split <;> rfl

/-- **No exception leaves the receive callback** during contact and session negotiation – every
    configuration, flags octet, handshake result, certificate (or none), pipelined or not. -/
theorem C15_no_escape (c : Cfg) (e : Env) (n : Conn) :
    (outcomeC Quirks.current c e n).escaped = [] :=
  no_escape_of Quirks.current c e n rfl rfl (fun h => by cases h) (fun h => by cases h)

/-- failed handshake: closed, nothing escapes; SESS_INIT pipelined behind a policy failure: closed,
    never handled (formerly `AttributeError` after close – regression instance) -/
example :
    (outcomeC Quirks.current d27Cfg { d27Env with handshake := .sslError } d27Conn).contact = .close true ∧
    (outcomeC Quirks.current ⟨true, true, some true, false, false⟩ ⟨0, .ok, true, false⟩ d27Conn).sess = .notDelivered ∧
    (outcomeC { Quirks.current with handlesAfterClose := true } ⟨true, true, some true, false, false⟩
      ⟨0, .ok, true, false⟩ d27Conn).escaped = [.attributeError] := by decide +kernel

/-- `C15spec.Policy` for any quirk set, outside the regions its (former) quirks open. -/
private theorem policy_of (q : Quirks) (c : Cfg) (e : Env) (n : Conn) (hname : n.peerName ≠ "")
    (hD13 : q.uncheckedDnsCounts = true → d13Region c n = false)
    (hPlain : q.carriesPlaintext = true → e.pipelined = false)
    (hNative : q.callsNative = true → e.nativeMatch = true)
    (hCert : q.noCertRaises = true → n.cert ≠ none) :
    Policy (situation c e n) (observe (outcomeC q c e n)) := by
  have hpol := C15_no_init_before_policy q c e (peerIdOf c n)
  have hauth := auth_iff q c e n hname hD13
  refine
    { attempt_iff := ?_, proceeds_ok := ?_, init_clear := ?_, init_secured := ?_, require_never_clear := ?_,
      forbid_never_secured := ?_, tls_established := ?_, tls_otherwise := ?_, tls_accepts := ?_, term_reason := ?_ }
  · show (outcome q c e (peerIdOf c n)).attempted = true ↔
      ((c.tlsEnable && (e.peerFlags % 2 == 1)) = true ∧
        Acceptable c.requireTls (c.tlsEnable && (e.peerFlags % 2 == 1)))
    rw [C15_attempt_iff_both, Bool.and_eq_true, beq_iff_eq, and_assoc]
    refine and_congr_right fun ht => and_congr_right fun hf => ?_
    rw [ht, hf]
    -- with TLS negotiated, the policy accepts unless it forbids
    constructor
    · intro h r hr
      cases r
      · exact absurd hr h
      · rfl
    · intro h hr
      cases h false hr
  · intro h
    obtain ⟨h1, h2, _, _, _⟩ := hpol
      (h.imp of_decide_eq_true (Or.imp of_decide_eq_true fun h => Or.inl (of_decide_eq_true h)))
    exact ⟨fun r hr => h1.symm.trans (h2 r hr), h1⟩
  · intro h
    have hm := of_decide_eq_true h
    obtain ⟨h1, _, h3, _, _⟩ := hpol (Or.inl hm)
    exact h1.symm.trans (h3 hm)
  · intro h
    have hm := of_decide_eq_true h
    obtain ⟨h1, _, _, h4, _⟩ := hpol (Or.inr (Or.inl hm))
    have hsec : (outcome q c e (peerIdOf c n)).isSecure = true :=
      (render_isSecure _ _ _ _ _).mpr (render_sessInit_secured _ _ _ _ _ hm)
    exact ⟨h1.symm.trans hsec, beq_iff_eq.mpr (h4 hm)⟩
  · intro hr
    obtain ⟨h1, _, h3⟩ := C15_require_never_clear q c e (peerIdOf c n) hr
    exact ⟨decide_eq_false h1, fun he => h3 (of_decide_eq_true he)⟩
  · intro hr
    obtain ⟨h1, h2, h3⟩ := C15_forbid_never_tls q c e (peerIdOf c n) hr
    refine ⟨h2, decide_eq_false ?_, h1⟩
    show Msg.sessInit ∉ (outcome q c e (peerIdOf c n)).secured
    rw [h3]
    exact List.not_mem_nil
  · intro he hs
    have hst := of_decide_eq_true he
    exact ⟨hauth.mp (established_tls q c e n hst hs).1, initUnderTls_of q c e n hPlain hst hs⟩
  · intro hs hd hna
    rw [delivered_tls q c e n hNative hCert hs hd, if_neg (mt hauth.mp hna)]
    exact ⟨rfl, (termReasonsOf_render _ _ _ _ _).trans (if_pos rfl)⟩
  · intro hs hd ha
    rw [delivered_tls q c e n hNative hCert hs hd, if_pos (hauth.mpr ha)]
    exact ⟨rfl, (termReasonsOf_render _ _ _ _ _).trans (if_pos rfl)⟩
  · intro r hr
    obtain ⟨_, hss⟩ := termReasons_mem _ _ _ _ _ r hr
    exact (sessDecision_terminated q c e _ _ r hss).2

/-- **C15 at full strength against the independent specification `C15spec.Policy`**: every
    configuration (side, `tls_enable`, `require_tls`, `require_host_authn`, `require_node_authn`), every
    flags octet of the peer, every handshake result, SESS_INIT pipelined or not, every certificate
    (arbitrary SAN list, no SAN extension, no certificate), every peer address / name / node ID.
    (`peerName ≠ ""`: an empty host name cannot be a DNS-ID reference.) -/
theorem C15_policy (c : Cfg) (e : Env) (n : Conn) (hname : n.peerName ≠ "") :
    Policy (situation c e n) (observe (outcomeC Quirks.current c e n)) :=
  policy_of Quirks.current c e n hname (fun h => by cases h) (fun h => by cases h) (fun h => by cases h)
    (fun h => by cases h)

/-- non-vacuity: a TLS session with a many-entry certificate is established and reported … -/
example : (observe (outcomeC Quirks.current ⟨false, true, some true, true, true⟩ ⟨0x01, .ok, false, true⟩
    ⟨"peer.example.org", "2001:db8::1", [0x20, 0x01, 0x0d, 0xb8, 0, 0, 0, 0, 0, 0, 0, 0, 0, 0, 0, 1], "dtn://peer/",
     some ⟨some [.other, .dns "x.example", .uri "dtn://peer/", .ip [192, 0, 2, 9],
                 .ip [0x20, 0x01, 0x0d, 0xb8, 0, 0, 0, 0, 0, 0, 0, 0, 0, 0, 0, 1], .dns "peer.example.org"]⟩⟩)).established
    = true := by decide +kernel
/-- … and one whose URI does not match is turned away with reason 4 -/
example : (observe (outcomeC Quirks.current ⟨true, true, none, false, false⟩ ⟨0x01, .ok, false, true⟩
    ⟨"192.0.2.1", "192.0.2.1", [192, 0, 2, 1], "dtn://peer/",
     some ⟨some [.ip [192, 0, 2, 1], .uri "dtn://other/"]⟩⟩)).termReasons = [4] := by decide +kernel

/-- **Every policy option written in the configuration file is the option in force** – whatever its
    value (`false` and `null` included); an option that is not in the file has its documented default. -/
theorem C15_config_file_honoured (passive : Bool) (f : CfgFile) :
    (∀ v, f.tlsEnable = some v → (loadFile passive f).tlsEnable = v) ∧
    (∀ v, f.requireTls = some v → (loadFile passive f).requireTls = v) ∧
    (∀ v, f.requireHost = some v → (loadFile passive f).requireHost = v) ∧
    (∀ v, f.requireNode = some v → (loadFile passive f).requireNode = v) ∧
    (f.tlsEnable = none → (loadFile passive f).tlsEnable = true) ∧
    (f.requireTls = none → (loadFile passive f).requireTls = none) ∧
    (f.requireHost = none → (loadFile passive f).requireHost = false) ∧
    (f.requireNode = none → (loadFile passive f).requireNode = false) ∧
    (loadFile passive f).passive = passive := by
  refine ⟨?_, ?_, ?_, ?_, ?_, ?_, ?_, ?_, rfl⟩ <;> intro h <;> (try intro h') <;> simp_all [loadFile] <;> rfl

example : loadFile true ⟨some false, some (some false), none, some true⟩ = ⟨true, false, some false, false, true⟩ := by
  decide +kernel

/-- **A node whose configuration file forbids TLS (`require_tls: false`) never proceeds secured.** -/
theorem C15_file_forbid_never_tls (passive : Bool) (f : CfgFile) (e : Env) (p : PeerId)
    (h : f.requireTls = some (some false)) :
    (outcome Quirks.current (loadFile passive f) e p).attempted = false ∧
    (outcome Quirks.current (loadFile passive f) e p).isSecure = false ∧
    (outcome Quirks.current (loadFile passive f) e p).secured = [] :=
  C15_forbid_never_tls Quirks.current (loadFile passive f) e p ((C15_config_file_honoured passive f).2.1 _ h)

/-- **A node whose configuration file requires TLS (`require_tls: true`) never proceeds in the clear.** -/
theorem C15_file_require_never_clear (passive : Bool) (f : CfgFile) (e : Env) (p : PeerId)
    (h : f.requireTls = some (some true)) :
    Msg.sessInit ∉ (outcome Quirks.current (loadFile passive f) e p).clear ∧
    (outcome Quirks.current (loadFile passive f) e p).contact ≠ .proceedClear ∧
    ((outcome Quirks.current (loadFile passive f) e p).state = .established →
      (outcome Quirks.current (loadFile passive f) e p).isSecure = true) :=
  C15_require_never_clear Quirks.current (loadFile passive f) e p ((C15_config_file_honoured passive f).2.1 _ h)

/-- **A node whose configuration file disables TLS (`tls_enable: false`) does not offer it and never
    starts a handshake.** -/
theorem C15_file_tls_disabled_never_tls (passive : Bool) (f : CfgFile) (e : Env) (p : PeerId)
    (h : f.tlsEnable = some false) :
    (outcome Quirks.current (loadFile passive f) e p).attempted = false ∧
    (outcome Quirks.current (loadFile passive f) e p).isSecure = false ∧
    Msg.contact true ∉ (outcome Quirks.current (loadFile passive f) e p).clear := by
  have ht : (loadFile passive f).tlsEnable = false := (C15_config_file_honoured passive f).1 _ h
  obtain ⟨ha, hs, _⟩ := not_attempted Quirks.current (loadFile passive f) e p (by rw [ht]; rfl)
  refine ⟨ha, hs, ?_⟩
  · rw [outcome_eq]
    intro hm
    rcases render_clear_mem _ _ _ _ _ _ hm with h | h
    · rw [ht] at h
      cases h
    · cases h.1

example : (outcome Quirks.current (loadFile false ⟨none, some (some false), none, none⟩) ⟨1, .ok, false, false⟩
    ⟨true, true, .matched, .matched, .matched⟩).closed = true := by decide +kernel
example : (outcome Quirks.current (loadFile true ⟨some false, none, none, none⟩) ⟨1, .ok, false, false⟩
    ⟨true, false, .matched, .absent, .matched⟩).clear = [.contact false, .sessInit] := by decide +kernel

end Props
end DtnVerif
