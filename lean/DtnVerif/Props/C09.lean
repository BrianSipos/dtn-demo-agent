/-
  C09 — TCPCL termination is graceful, complete and always finishes.
  Safety (one SESS_TERM each, reply flag, nothing started after it, unstarted transfers reported, no
  half-open session, closed is final, nothing silently dropped), the agent over several contacts
  (`stop()` closes every contact, `shutdown()` reaches every contact and stops only when all have
  closed), and "always finishes" as deadlock freedom with a bound: every enabled internal event strictly
  lowers the variant `Var.mu` (Lemmas/TcpclVariant*.lean), so from any reachable state at most `Var.mu s`
  internal events happen before none is enabled any more; and in such a state, if termination was
  requested, both endpoints have closed (keepalive-free runs; with keepalives the armed timers are what is
  left enabled, see C14).
-/
import DtnVerif.Lemmas.TcpclSys
import DtnVerif.Lemmas.TcpclKInv
import DtnVerif.Lemmas.TcpclWake
import DtnVerif.Lemmas.TcpclAgent
import DtnVerif.Lemmas.TcpclQuietSys
import DtnVerif.Lemmas.TcpclVariantSys
import DtnVerif.Lemmas.TcpclKaSys
import DtnVerif.Props.C01
import DtnVerif.Generated.Facts
namespace DtnVerif
namespace Tcpcl

theorem C09_facts :
    Facts.enum_tcpcl_SessionTerm_Flag_REPLY = 1
    ∧ (Facts.binds.filter (fun b => b.2.1 == "SessionTerm")).map (fun b => b.2.2.2) = [(tSessTerm : Int)] := by
  decide

def isTerm : Msg → Bool
  | .sessTerm .. => true
  | _ => false

private theorem legalRun_term_count (s s' : LState) (ms : List Msg) (h : legalRun s ms = some s') :
    (ms.filter isTerm).length + (if s.termSeen then 1 else 0) ≤ 1 := by
  induction ms generalizing s with
  | nil => simp; split <;> omega
  | cons m ms ih =>
    obtain ⟨s1, hs, h2⟩ := legalRun_cons_some h
    have ih' := ih s1 h2
    cases m with
    | sessTerm f r =>
      -- legal only if none was seen before; from here on one has been
      obtain ⟨-, ht, rfl⟩ := legalStep_inv hs
      rw [ht]
      exact ih'
    | _ =>
      rw [(legalStep_fields hs).1 rfl] at ih'
      simpa [List.filter_cons, isTerm] using ih'

/-- **Exactly-at-most-one SESS_TERM per side, and no new transfer after it**, for every schedule of the
    two-endpoint system (either or both sides requesting termination at any moment): both facts are part
    of sequence legality (`Legal`), so they follow from C04. -/
theorem C09_one_term_each (cfgA cfgB : Cfg) (sch : List SysEv)
    (a1 : 0 < cfgA.segInit) (a2 : cfgA.privExt = false) (a3 : 0 < cfgA.segMru)
    (b1 : 0 < cfgB.segInit) (b2 : cfgB.privExt = false) (b3 : 0 < cfgB.segMru)
    (hwf : ∀ pre, pre <+: sch → SysWF (runSys (initSys cfgA cfgB) pre))
    (hs : ∀ ev ∈ sch, ev.sendOK) :
    ((runSys (initSys cfgA cfgB) sch).a.emitted.filter isTerm).length ≤ 1
    ∧ ((runSys (initSys cfgA cfgB) sch).b.emitted.filter isTerm).length ≤ 1 := by
  have hi := (reach cfgA cfgB sch a1 a2 a3 b1 b2 b3 hwf hs).1
  obtain ⟨La, ha⟩ := Option.isSome_iff_exists.mp (emitted_legal hi.ia)
  obtain ⟨Lb, hb⟩ := Option.isSome_iff_exists.mp (emitted_legal hi.ib)
  exact ⟨legalRun_term_count {} La _ ha, legalRun_term_count {} Lb _ hb⟩

private theorem emitted_gotTerm (e : Ep) :
    (checkSessTerm (flushPendStart { e with gotTerm := true }).1).1.emitted = e.emitted := by
  have := congrArg PumpView.emitted (pv_checkSessTerm (flushPendStart { e with gotTerm := true }).1)
  simp only [Ep.pumpView] at this
  rw [this]; rfl

/-- The responder's SESS_TERM is marked as reply and echoes the reason; a locally requested one is not. -/
theorem C09_reply_flag (e : Ep) (m : Msg) (reason : Nat) (hs : e.inSess = true) (ht : e.inTerm = false) :
    (onSessTerm e m reason).1.emitted = e.emitted ++ [.sessTerm 1 reason]
    ∧ (sendSessTerm e reason false).1.emitted = e.emitted ++ [.sessTerm 0 reason] := by
  refine ⟨?_, (sendSessTerm_sent e reason false hs ht).1⟩
  unfold onSessTerm
  simp only [hs, ht, Bool.not_true, Bool.false_eq_true, if_false, Bool.not_false, if_true]
  rw [emitted_gotTerm]; exact (sendSessTerm_sent e reason true hs ht).1

/-- when both sides have requested termination, a received SESS_TERM is *not* answered by a second one -/
theorem C09_no_second_term (e : Ep) (m : Msg) (reason : Nat) (hs : e.inSess = true) (ht : e.inTerm = true) :
    (onSessTerm e m reason).1.emitted = e.emitted := by
  unfold onSessTerm
  split
  · rename_i h; simp [hs] at h
  · simp only []
    have hif : (if (!e.inTerm) = true then sendSessTerm e reason true else (e, [])) = (e, []) := by simp [ht]
    rw [hif]
    exact emitted_gotTerm e

/-- **Bundles queued but not started are reported, not silently lost**: whenever SESS_TERM is sent
    (requested locally, as a reply, or by the idle timer) or the connection closes, every not-yet-started
    transfer gets exactly one `send_bundle_finished` with a non-success result and leaves the send queue. -/
theorem C09_unstarted_reported (e : Ep) :
    (flushPendStart e).1.txPendStart = []
    ∧ (flushPendStart e).2 = e.txPendStart.map (fun it =>
        Out.sig "send_bundle_finished" [.str (natStr it.tid), .nat 0, .str "session terminating"])
    ∧ (∀ it ∈ e.txPendStart, (flushPendStart e).1.txMap.contains it.tid = false) := by
  refine ⟨rfl, rfl, ?_⟩
  intro it hit
  simp only [flushPendStart, List.contains_eq_mem, List.mem_filter, decide_eq_false_iff_not, not_and,
    Bool.not_eq_true', Bool.not_eq_false, List.any_eq_true]
  intro _
  exact ⟨it, hit, by simp⟩

theorem C09_term_flushes (e : Ep) (r : Nat) (b : Bool) (hs : e.inSess = true) (ht : e.inTerm = false) :
    (sendSessTerm e r b).1.txPendStart = [] ∧ (sendSessTerm e r b).1.inTerm = true :=
  ⟨(sendSessTerm_sent e r b hs ht).2.1, (sendSessTerm_sent e r b hs ht).2.2.1⟩

/-- **No session is left half-open**: a user close or the peer's disconnect closes the endpoint at any
    point of any execution and cancels its timers … -/
theorem C09_no_half_open (e : Ep) (hc : e.closed = false) :
    (step e .close).1.closed = true ∧ (step e .rxEof).1.closed = true
    ∧ (step e .close).1.kaDeadline = none ∧ (step e .close).1.idleDeadline = none
    ∧ (step e .rxEof).1.kaDeadline = none ∧ (step e .rxEof).1.idleDeadline = none := by
  have hd : (doClose e).1.kaDeadline = none ∧ (doClose e).1.idleDeadline = none := by
    unfold doClose; simp [hc]
  rw [step_close e hc, step_rxEof e hc]
  exact ⟨closed_doClose e, closed_doClose e, hd.1, hd.2, hd.1, hd.2⟩

/-- … and a closed endpoint stays closed and never emits again, whatever happens. -/
theorem C09_closed_is_final (e : Ep) (ev : Ev) (hc : e.closed = true) :
    (step e ev).1.closed = true ∧ (step e ev).1.emitted = e.emitted := by
  obtain ⟨n, m, s, p, h⟩ := step_closed e ev hc
  rw [h]
  exact ⟨hc, rfl⟩

/-- **Nothing is dispatched after the message which closed the connection**: the messages which
    follow it in the same read are not handed to `recv_message` — they are neither recorded as processed
    nor answered (the `recv_raw` loop stops when the socket is gone). -/
theorem C09_no_dispatch_after_close (e : Ep) (m : Msg) (ms : List Msg) (hc : e.closed = false)
    (hm : (handleMsg { e with rxMore := !ms.isEmpty || e.rx.dead } m).1.closed = true) :
    handleMsgs e (m :: ms) = handleMsg { e with rxMore := !ms.isEmpty || e.rx.dead } m := by
  have h2 : ∀ (x : Ep), x.closed = true → handleMsgs x ms = (x, []) := by
    intro x hx
    cases ms with
    | nil => rfl
    | cons m' ms' => simp [handleMsgs, hx]
  unfold handleMsgs
  rw [if_neg (by simp [hc])]
  simp only []
  rw [h2 _ hm]
  simp

/-- **No transfer is silently dropped once its final segment is out**: at every point of every
    execution (termination requested or not, any peer), each transfer whose END segment the endpoint has
    emitted is still awaiting its final acknowledgement, or has been reported `success`, or was refused
    by the peer — it never just disappears from the bookkeeping. -/
theorem C09_sent_accounted (cfg : Cfg) (evs : List Ev) :
    ∀ f t x d, Msg.xferSegment f t x d ∈ (runEp { cfg := cfg } evs).emitted → hasEnd f = true →
      t ∈ (runEp { cfg := cfg } evs).txPendAck ∨ t ∈ (runEp { cfg := cfg } evs).successLog
        ∨ Refused t (runEp { cfg := cfg } evs).processed := by
  intro f t x d hm he
  exact kInv_run evs _ (kInv_init cfg) _ hm he

/-- **Termination cannot strand a transfer in progress**: requesting termination keeps the wake-up
    invariant — a transfer being segmented still has an idle source pending or octets to pump, so its
    remaining segments go out (`processQueue` continues an active transfer before it looks at the
    terminating flag). -/
theorem C09_terminate_keeps_progress (e : Ep) (r : Nat) (hi : WakeInv e) :
    WakeInv (step e (.terminate r)).1 ∧ (step e (.terminate r)).1.txTmp = e.txTmp := by
  unfold step
  simp only []
  split
  · exact ⟨hi, rfl⟩
  · exact ⟨wake_sendSessTerm e r false hi, congrArg Prod.fst (tp_sendSessTerm e r false)⟩

/-- nothing more can happen in the two-endpoint system without a user action or a timer: nothing in
    flight, no idle source for `_process_queue` and no TX source at either endpoint, and a closed
    endpoint's end-of-stream has been delivered to its peer -/
structure Quiescent (s : Sys) : Prop where
  toA : s.toA = []
  toB : s.toB = []
  pqA : s.a.pqSources = 0
  pqB : s.b.pqSources = 0
  txA : s.a.txSrc = 0
  txB : s.b.txSrc = 0
  eofB : s.a.closed = true → s.b.closed = true
  eofA : s.b.closed = true → s.a.closed = true

theorem Quiescent.stuck {s : Sys} (hq : Quiescent s) : Var.Stuck s := by
  have no_src : ∀ {n : Nat}, n = 0 → ¬ 0 < n := fun h => h ▸ Nat.lt_irrefl 0
  have no_eof : ∀ {x y : Bool}, (x = true → y = true) → x = true → y = false → False :=
    fun h hx hy => absurd ((h hx).symm.trans hy) nofun
  intro ev hen
  cases ev with
  | atA e =>
    cases e with
    | procQueue => exact no_src hq.pqA hen.1
    | pump n => exact no_src hq.txA hen.2.2
    | _ => exact hen
  | atB e =>
    cases e with
    | procQueue => exact no_src hq.pqB hen.1
    | pump n => exact no_src hq.txB hen.2.2
    | _ => exact hen
  | deliverA k => exact hen.2 (by rw [hq.toA, List.take_nil])
  | deliverB k => exact hen.2 (by rw [hq.toB, List.take_nil])
  | eofA => exact no_eof hq.eofA hen.1 hen.2.2
  | eofB => exact no_eof hq.eofB hen.1 hen.2.2

/-- **Termination always finishes (no deadlock).** Take any schedule of the two-endpoint system — any
    user calls on both sides including `terminate()` by either or both at any moment, any chunking and
    delay of the two octet streams, any partial or blocked writes — and suppose it has reached a state
    in which no internal event is enabled any more (`Quiescent`) and at least one side has requested or
    answered termination. Then both endpoints have closed the connection: the session cannot be left
    half-open or waiting for something that will never come. Stated for keepalive-free runs (no
    KEEPALIVE was ever sent): with keepalives enabled the keepalive timers stay armed while the
    connection is open, so such a state is not quiescent in the first place; that case is covered by
    the idle/keepalive timer theorems of C14 and by the implementation-side monitor. -/
theorem C09_no_deadlock_partial (cfgA cfgB : Cfg) (sch : List SysEv)
    (a1 : 0 < cfgA.segInit) (a2 : cfgA.privExt = false) (a3 : 0 < cfgA.segMru)
    (b1 : 0 < cfgB.segInit) (b2 : cfgB.privExt = false) (b3 : 0 < cfgB.segMru)
    (hwf : ∀ pre, pre <+: sch → SysWF (runSys (initSys cfgA cfgB) pre))
    (hs : ∀ ev ∈ sch, ev.sendOK) :
    let s := runSys (initSys cfgA cfgB) sch
    Quiescent s → (s.a.inTerm = true ∨ s.b.inTerm = true) →
    (∀ m ∈ s.a.emitted, m ≠ .keepalive) → (∀ m ∈ s.b.emitted, m ≠ .keepalive) →
    s.a.closed = true ∧ s.b.closed = true := by
  intro s hq hterm _ nokaB
  obtain ⟨hi, hw, ha, hb⟩ := reach_all cfgA cfgB sch a1 a2 a3 b1 b2 b3 hwf hs
  exact stuck_closed s hi hw ha hb hq.stuck hterm nokaB

/-! non-vacuity: a run which meets every hypothesis of `C09_no_deadlock_partial` -/
namespace ExampleTerm
open Example in
/-- the C01 example (hand-shake cut across reads, one bundle in two segments), then A asks to terminate,
    B answers, both write their SESS_TERM out and the leftover idle sources fire -/
def sched : List SysEv := Example.sched ++ [.atA .procQueue, .atA (.terminate 0), .atA (.pump 10240), .atA (.pump 10240),
  .deliverB 100, .atB (.pump 10240), .atB (.pump 10240), .deliverA 100, .atA .procQueue, .atB .procQueue]

example : (List.range (sched.length + 1)).all
    (fun k => decide (SysWF (runSys (initSys Example.cfgA Example.cfgB) (sched.take k)))) = true := by decide +kernel

example : let s := runSys (initSys Example.cfgA Example.cfgB) sched
    s.toA = [] ∧ s.toB = [] ∧ s.a.pqSources = 0 ∧ s.b.pqSources = 0 ∧ s.a.txSrc = 0 ∧ s.b.txSrc = 0
    ∧ s.a.inTerm = true ∧ (s.a.emitted ++ s.b.emitted).all (fun m => m != .keepalive) = true
    ∧ s.a.closed = true ∧ s.b.closed = true ∧ s.a.successLog = [1] := by decide +kernel

/-- one event earlier A is still open, waiting for B's SESS_TERM which is in flight: not quiescent -/
example : let s := runSys (initSys Example.cfgA Example.cfgB) (sched.take (sched.length - 3))
    s.a.closed = false ∧ s.b.closed = true ∧ s.toA ≠ [] := by decide +kernel
end ExampleTerm

/-- **Transfers in progress complete and are acknowledged.** In every reachable state of the two-endpoint
    system: once an endpoint has nothing left awaiting its final acknowledgement — which is the case
    whenever it closes gracefully (`_check_sess_term` closes only an idle session) — every transfer
    whose final segment it ever emitted has been reported `success`, the peer has completely received
    exactly that bundle, and it is the bundle the user queued under that id. Between faithful endpoints
    no transfer is ever refused, so nothing "in progress" can end any other way. -/
theorem C09_in_progress_complete (cfgA cfgB : Cfg) (sch : List SysEv)
    (a1 : 0 < cfgA.segInit) (a2 : cfgA.privExt = false) (a3 : 0 < cfgA.segMru)
    (b1 : 0 < cfgB.segInit) (b2 : cfgB.privExt = false) (b3 : 0 < cfgB.segMru)
    (hwf : ∀ pre, pre <+: sch → SysWF (runSys (initSys cfgA cfgB) pre))
    (hs : ∀ ev ∈ sch, ev.sendOK) :
    let s := runSys (initSys cfgA cfgB) sch
    (s.a.txPendAck = [] → ∀ f t x d, Msg.xferSegment f t x d ∈ s.a.emitted → hasEnd f = true →
        t ∈ s.a.successLog ∧ ∃ d', (t, d') ∈ s.b.rxLog ∧ (⟨t, d'⟩ : TxItem) ∈ s.a.sendLog)
    ∧ (s.b.txPendAck = [] → ∀ f t x d, Msg.xferSegment f t x d ∈ s.b.emitted → hasEnd f = true →
        t ∈ s.b.successLog ∧ ∃ d', (t, d') ∈ s.a.rxLog ∧ (⟨t, d'⟩ : TxItem) ∈ s.b.sendLog) := by
  intro s
  obtain ⟨hi, -, tB, tA⟩ := reach cfgA cfgB sch a1 a2 a3 b1 b2 b3 hwf hs
  obtain ⟨ka, kb⟩ := sys_lift_init KInv kInv_step kInv_init cfgA cfgB sch
  obtain ⟨sa, sb⟩ := sys_lift_init SuccInv succInv_step succInv_init cfgA cfgB sch
  obtain ⟨aa, ab⟩ := sys_lift_init AckInv ackInv_step ackInv_init cfgA cfgB sch
  exact ⟨ended_received s.a s.b hi.ia hi.ib sa ab ka tA tB, ended_received s.b s.a hi.ib hi.ia sb aa kb tB tA⟩

/-- **Bounded number of steps.** After any schedule `sch` (user calls, timers, deliveries, anything),
    let only internal events happen — `_process_queue` idle sources firing, TX callbacks in which the
    socket takes at least one octet, deliveries of octets in flight, end-of-stream — each enabled when
    it happens (`Var.EnabledRun`). Such a continuation is never longer than the variant `Var.mu` of
    the state it starts from, and every one of its events lowers the variant by at least one. No user
    action and no timer is needed for that; the only internal steps not counted are a TX callback which
    the socket refuses (`pump 0`) and the busy-waiting idle source of an endpoint whose session is not
    established yet — neither changes anything but the `pqPend`/`txIdle` bookkeeping flags.
    (One side has to be the active one: two passive endpoints never send anything.) -/
theorem C09_bounded_steps (cfgA cfgB : Cfg) (sch int : List SysEv)
    (a1 : 0 < cfgA.segInit) (a2 : cfgA.privExt = false) (a3 : 0 < cfgA.segMru)
    (b1 : 0 < cfgB.segInit) (b2 : cfgB.privExt = false) (b3 : 0 < cfgB.segMru)
    (hpas : ¬ (cfgA.passive = true ∧ cfgB.passive = true))
    (hwf : ∀ pre, pre <+: sch ++ int → SysWF (runSys (initSys cfgA cfgB) pre))
    (hs : ∀ ev ∈ sch, ev.sendOK)
    (hen : Var.EnabledRun (runSys (initSys cfgA cfgB) sch) int) :
    int.length + Var.mu (runSys (initSys cfgA cfgB) (sch ++ int)) ≤ Var.mu (runSys (initSys cfgA cfgB) sch) := by
  have hi := (reach cfgA cfgB sch a1 a2 a3 b1 b2 b3
    (fun pre hpre => hwf pre (hpre.trans (List.prefix_append _ _))) hs).1
  rw [runSys_append]
  refine Var.bounded_run int _ hi ?_ ?_ hen
  · intro pre hpre
    rw [← runSys_append]
    exact hwf _ ((List.prefix_append_right_inj sch).mpr hpre)
  · obtain ⟨c1, c2⟩ := cfg_reach cfgA cfgB sch
    rw [c1, c2]; exact hpas

/-- **When nothing internal is enabled any more, a session in termination is closed on both sides.**
    `C09_no_deadlock_partial` with the quiescence premise replaced by `Var.Stuck` (no event of
    `Var.Enabled` can happen), which is what a run counted by `C09_bounded_steps` ends in. -/
theorem C09_stuck_closed (cfgA cfgB : Cfg) (sch : List SysEv)
    (a1 : 0 < cfgA.segInit) (a2 : cfgA.privExt = false) (a3 : 0 < cfgA.segMru)
    (b1 : 0 < cfgB.segInit) (b2 : cfgB.privExt = false) (b3 : 0 < cfgB.segMru)
    (hwf : ∀ pre, pre <+: sch → SysWF (runSys (initSys cfgA cfgB) pre))
    (hs : ∀ ev ∈ sch, ev.sendOK) :
    let s := runSys (initSys cfgA cfgB) sch
    Var.Stuck s → (s.a.inTerm = true ∨ s.b.inTerm = true) →
    (∀ m ∈ s.a.emitted, m ≠ .keepalive) → (∀ m ∈ s.b.emitted, m ≠ .keepalive) →
    s.a.closed = true ∧ s.b.closed = true := by
  intro s hst hterm _ nokaB
  obtain ⟨hi, hw, ha, hb⟩ := reach_all cfgA cfgB sch a1 a2 a3 b1 b2 b3 hwf hs
  exact stuck_closed s hi hw ha hb hst hterm nokaB

/-- **Termination always finishes, within a bounded number of steps and without further user action.**
    Whatever happened before (`sch`: any calls, timers, chunking, on both sides), once termination has
    been requested or answered by either side and only internal events happen from then on (`int`),
    there are at most `Var.mu` of them, and when none is enabled any more both endpoints have closed
    the connection. (Keepalive-free runs, as for `C09_no_deadlock_partial`.) -/
theorem C09_always_finishes (cfgA cfgB : Cfg) (sch int : List SysEv)
    (a1 : 0 < cfgA.segInit) (a2 : cfgA.privExt = false) (a3 : 0 < cfgA.segMru)
    (b1 : 0 < cfgB.segInit) (b2 : cfgB.privExt = false) (b3 : 0 < cfgB.segMru)
    (hpas : ¬ (cfgA.passive = true ∧ cfgB.passive = true))
    (hwf : ∀ pre, pre <+: sch ++ int → SysWF (runSys (initSys cfgA cfgB) pre))
    (hs : ∀ ev ∈ sch, ev.sendOK)
    (hen : Var.EnabledRun (runSys (initSys cfgA cfgB) sch) int) :
    let s0 := runSys (initSys cfgA cfgB) sch
    let s := runSys (initSys cfgA cfgB) (sch ++ int)
    int.length ≤ Var.mu s0
    ∧ (Var.Stuck s → (s.a.inTerm = true ∨ s.b.inTerm = true) →
        (∀ m ∈ s.a.emitted, m ≠ .keepalive) → (∀ m ∈ s.b.emitted, m ≠ .keepalive) →
        s.a.closed = true ∧ s.b.closed = true) := by
  intro s0 s
  refine ⟨?_, ?_⟩
  · exact Nat.le_trans (Nat.le_add_right _ _)
      (C09_bounded_steps cfgA cfgB sch int a1 a2 a3 b1 b2 b3 hpas hwf hs hen)
  · exact C09_stuck_closed cfgA cfgB (sch ++ int) a1 a2 a3 b1 b2 b3 hwf (Var.sendOK_append hs hen)

/-- when either side is configured without keepalive (`keepalive_time = 0`, the default) the negotiated
    interval is zero and neither endpoint ever sends a KEEPALIVE -/
theorem C09_no_keepalive_sent (cfgA cfgB : Cfg) (sch : List SysEv)
    (a1 : 0 < cfgA.segInit) (a2 : cfgA.privExt = false) (a3 : 0 < cfgA.segMru)
    (b1 : 0 < cfgB.segInit) (b2 : cfgB.privExt = false) (b3 : 0 < cfgB.segMru)
    (hwf : ∀ pre, pre <+: sch → SysWF (runSys (initSys cfgA cfgB) pre))
    (hs : ∀ ev ∈ sch, ev.sendOK) (hk : cfgA.keepalive = 0 ∨ cfgB.keepalive = 0) :
    let s := runSys (initSys cfgA cfgB) sch
    (∀ m ∈ s.a.emitted, m ≠ .keepalive) ∧ (∀ m ∈ s.b.emitted, m ≠ .keepalive) := by
  intro s
  obtain ⟨ka, kb⟩ := sysKa_run sch cfgA cfgB a1 a2 a3 b1 b2 b3 hwf hs
  obtain ⟨ca, cb⟩ : s.a.cfg = cfgA ∧ s.b.cfg = cfgB := cfg_reach cfgA cfgB sch
  exact ⟨ka.none_of_zero (by rw [ca, cb]; exact hk), kb.none_of_zero (by rw [ca, cb]; exact hk.symm)⟩

/-- **`C09_always_finishes` whenever keepalives are off** (`keepalive_time = 0` on either side — zero
    is the default), with no premise about the run left: after any schedule, once termination has
    been requested or answered by either side, at most `Var.mu` internal events happen, and when none
    is enabled any more both endpoints have closed the connection. -/
theorem C09_always_finishes_default (cfgA cfgB : Cfg) (sch int : List SysEv)
    (a1 : 0 < cfgA.segInit) (a2 : cfgA.privExt = false) (a3 : 0 < cfgA.segMru)
    (b1 : 0 < cfgB.segInit) (b2 : cfgB.privExt = false) (b3 : 0 < cfgB.segMru)
    (hpas : ¬ (cfgA.passive = true ∧ cfgB.passive = true))
    (hk : cfgA.keepalive = 0 ∨ cfgB.keepalive = 0)
    (hwf : ∀ pre, pre <+: sch ++ int → SysWF (runSys (initSys cfgA cfgB) pre))
    (hs : ∀ ev ∈ sch, ev.sendOK)
    (hen : Var.EnabledRun (runSys (initSys cfgA cfgB) sch) int) :
    let s0 := runSys (initSys cfgA cfgB) sch
    let s := runSys (initSys cfgA cfgB) (sch ++ int)
    int.length ≤ Var.mu s0
    ∧ (Var.Stuck s → (s.a.inTerm = true ∨ s.b.inTerm = true) → s.a.closed = true ∧ s.b.closed = true) := by
  intro s0 s
  obtain ⟨h1, h2⟩ := C09_always_finishes cfgA cfgB sch int a1 a2 a3 b1 b2 b3 hpas hwf hs hen
  refine ⟨h1, ?_⟩
  intro hst hterm
  obtain ⟨na, nb⟩ := C09_no_keepalive_sent cfgA cfgB (sch ++ int) a1 a2 a3 b1 b2 b3 hwf (Var.sendOK_append hs hen) hk
  exact h2 hst hterm na nb

/-! non-vacuity of `C09_always_finishes`: A asks to terminate in the middle of a transfer (2 of 3 octets
    segmented) while B has a bundle queued and not started; 23 enabled internal events later nothing is
    enabled, both sides are closed, A's transfer was delivered and acknowledged, and the variant went
    from 1832 to 0 -/
namespace ExampleBound
def sch : List SysEv := Example.sched.take 13 ++ [.atB (.send [7, 7, 7, 7, 7]), .atA (.terminate 0)]
def int : List SysEv :=
  [.atA (.pump 10240), .atA (.pump 10240), .atA (.pump 10240), .atA (.pump 10240), .atA (.pump 10240),
   .atB (.pump 10240), .atB (.pump 10240), .atB (.pump 10240), .deliverB 100,
   .atB (.pump 10240), .atB (.pump 10240), .atB (.pump 10240), .deliverA 100, .atA .procQueue,
   .atA (.pump 10240), .atA (.pump 10240), .atA (.pump 10240), .deliverB 100,
   .atB (.pump 10240), .atB (.pump 10240), .deliverA 100, .atA .procQueue, .atB .procQueue]

example : (List.range ((sch ++ int).length + 1)).all
    (fun k => decide (SysWF (runSys (initSys Example.cfgA Example.cfgB) ((sch ++ int).take k)))) = true := by decide +kernel

example : let s0 := runSys (initSys Example.cfgA Example.cfgB) sch
    s0.a.txTmp = some (⟨1, [1, 2, 3]⟩, 2) ∧ s0.a.inTerm = true ∧ s0.b.txPendStart = [⟨1, [7, 7, 7, 7, 7]⟩]
    ∧ Var.mu s0 = 1832 ∧ Var.EnabledRun s0 int := by decide +kernel

example : let s := runSys (initSys Example.cfgA Example.cfgB) (sch ++ int)
    s.a.closed = true ∧ s.b.closed = true ∧ Var.mu s = 0 ∧ s.a.successLog = [1] ∧ s.b.rxLog = [(1, [1, 2, 3])]
    ∧ s.b.txPendStart = [] ∧ s.a.txPendAck = [] ∧ s.b.txPendAck = []
    ∧ (s.a.emitted ++ s.b.emitted).all (fun m => m != .keepalive) = true
    ∧ (Var.cands.all fun ev => !decide (Var.Enabled s ev)) = true := by decide +kernel
/-- the example's configurations are the keepalive-free, one-active-one-passive kind of `C09_always_finishes_default` -/
example : Example.cfgA.keepalive = 0 ∧ Example.cfgB.keepalive = 0
    ∧ ¬ (Example.cfgA.passive = true ∧ Example.cfgB.passive = true) := by decide
end ExampleBound

/-- **`Agent.stop()` leaves no session half-open**: every contact is closed and unbound, whatever the
    number of contacts and whatever state each is in. -/
theorem C09_agent_stop_closes_all (a : TcpclAgent.Agent) : (TcpclAgent.stop a).1.handlers = [] :=
  TcpclAgent.stop_closes_all a

/-- **`Agent.shutdown()` reaches every contact**: along any history of the agent (contacts bound,
    established, terminating on their own, closing, earlier shutdown requests), after `shutdown()` every
    contact which is still open has sent its SESS_TERM; the contacts it closed instead had no session to
    end (so no transfer could be in progress); and it answers `True` exactly when nothing is left. -/
theorem C09_agent_shutdown_complete (stopOnClose : Bool) (ops : List TcpclAgent.Op) :
    let a := (TcpclAgent.run { stopOnClose := stopOnClose } ops).1
    (∀ x ∈ (TcpclAgent.shutdown a).1.handlers, x.inTerm = true)
    ∧ (∀ id, TcpclAgent.AOut.closed id ∈ (TcpclAgent.shutdown a).2 → ∃ y ∈ a.handlers, y.id = id ∧ y.inSess = false)
    ∧ TcpclAgent.AOut.ret ((TcpclAgent.shutdown a).1.handlers.isEmpty) ∈ (TcpclAgent.shutdown a).2 := by
  intro a
  have hnd : (TcpclAgent.ids a).Nodup := TcpclAgent.run_nodup ops _ (by simp [TcpclAgent.ids])
  exact ⟨TcpclAgent.shutdown_all_terminating a hnd, TcpclAgent.shutdown_closes_only_sessionless a,
    TcpclAgent.shutdown_ret a⟩

/-- **The agent stops only when every contact has closed**: the `on_stop` callback is reached from a
    closing contact only if that was the last one and a shutdown was requested (or `stop_on_close` is
    configured), and from `shutdown()` only when no contact is left. -/
theorem C09_agent_stops_when_empty (a : TcpclAgent.Agent) (id : Nat) :
    (TcpclAgent.AOut.stopped ∈ (TcpclAgent.contactClosed a id).2 →
        (TcpclAgent.contactClosed a id).1.handlers = [] ∧ (a.inShutdown = true ∨ a.stopOnClose = true))
    ∧ (TcpclAgent.AOut.stopped ∈ (TcpclAgent.shutdown a).2 → (TcpclAgent.shutdown a).1.handlers = []) :=
  ⟨TcpclAgent.contactClosed_stopped a id, TcpclAgent.shutdown_stopped a⟩

/-- three contacts — one still negotiating, one established, one already terminating — then `shutdown()`:
    the first is closed, the second gets its SESS_TERM, the third is left alone, and the agent waits -/
example : (TcpclAgent.run {} [.bind 0, .bind 1, .bind 2, .establish 1, .establish 2, .contactTerm 2, .shutdown]).2.getLast?
    = some [.closed 0, .sessTerm 1, .ret false] := by decide

end Tcpcl
end DtnVerif
