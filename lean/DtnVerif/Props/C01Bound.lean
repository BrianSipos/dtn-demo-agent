/-
  C01 — delivery without an appeal to scheduler fairness beyond "an enabled event happens".
  `C01_quiescent_delivery` / `C01_quiescent_all_success` say what holds once a direction has drained,
  `C01_no_lost_wakeup` that an internal event is enabled as long as work remains. With the variant of
  Lemmas/TcpclVariantSys.lean the gap in between is closed: whatever happened before, letting the
  enabled internal events happen — in any order — takes at most `Var.mu` of them, and when none is
  left every bundle ever queued on either side has been delivered intact, in order, exactly once, and
  reported `success` to its sender (sessions not in termination; C09 covers those).
-/
import DtnVerif.Props.C09
namespace DtnVerif
namespace Tcpcl

private theorem est_bool : ∀ (pX pY cX iX cY iY : Bool), ¬ (pX = true ∧ pY = true) →
    cX = (if pX = true then decide (1 ≤ if iY = true then 2 else if cY = true then 1 else 0) else true) →
    iX = (if pX = true then decide ((if iY = true then 2 else if cY = true then 1 else 0) = 2)
          else decide (1 ≤ if iY = true then 2 else if cY = true then 1 else 0)) →
    cY = (if pY = true then decide (1 ≤ if iX = true then 2 else if cX = true then 1 else 0) else true) →
    iY = (if pY = true then decide ((if iX = true then 2 else if cX = true then 1 else 0) = 2)
          else decide (1 ≤ if iX = true then 2 else if cX = true then 1 else 0)) →
    decide ((if iY = true then 2 else if cY = true then 1 else 0) = 2) = true
    ∧ decide ((if iX = true then 2 else if cX = true then 1 else 0) = 2) = true := by decide

theorem established_of_exchanged (x y : Ep) (Px Py : LState) (hx : TxInv x Px) (hy : TxInv y Py)
    (hxy : y.processed = x.emitted) (hyx : x.processed = y.emitted)
    (hpas : ¬ (x.cfg.passive = true ∧ y.cfg.passive = true)) : x.inSess = true ∧ y.inSess = true := by
  have e1 : Py.phase = phaseOf x.txView := by
    have h1 : legalRun {} y.processed = some Py := hy.hP
    have h2 : legalRun {} x.emitted = some ⟨phaseOf x.txView, x.inTerm, curL x.txView, x.nStarted⟩ := hx.L
    rw [hxy, h2] at h1
    have := Option.some.inj h1
    rw [← this]
  have e2 : Px.phase = phaseOf y.txView := by
    have h1 : legalRun {} x.processed = some Px := hx.hP
    have h2 : legalRun {} y.emitted = some ⟨phaseOf y.txView, y.inTerm, curL y.txView, y.nStarted⟩ := hy.L
    rw [hyx, h2] at h1
    have := Option.some.inj h1
    rw [← this]
  have cx := hx.phaseC
  have ix := hx.phaseI
  have sx := hx.sess
  have cy := hy.phaseC
  have iy := hy.phaseI
  have sy := hy.sess
  simp only [Ep.txView] at cx ix sx cy iy sy
  rw [e2] at cx ix sx
  rw [e1] at cy iy sy
  simp only [phaseOf, Ep.txView] at cx ix sx cy iy sy
  rw [sx, sy]
  have hp' : ¬ (x.cfg.passive = true ∧ y.cfg.passive = true) := hpas
  exact est_bool _ _ _ _ _ _ hp' cx ix cy iy

/-- **Every queued bundle is delivered and acknowledged within a bounded number of internal steps.**
    After any schedule `sch`, let the enabled internal events happen in any order (`int`). There are at
    most `Var.mu` of them; and when none is enabled any more, with both endpoints open and neither in
    termination, B has completely received every bundle A's user ever queued — same ids, same octets,
    same order, each exactly once — A has reported `success` for each of them and its send queue is
    empty; and the same in the other direction. -/
theorem C01_all_delivered_bounded (cfgA cfgB : Cfg) (sch int : List SysEv)
    (a1 : 0 < cfgA.segInit) (a2 : cfgA.privExt = false) (a3 : 0 < cfgA.segMru)
    (b1 : 0 < cfgB.segInit) (b2 : cfgB.privExt = false) (b3 : 0 < cfgB.segMru)
    (hpas : ¬ (cfgA.passive = true ∧ cfgB.passive = true))
    (hwf : ∀ pre, pre <+: sch ++ int → SysWF (runSys (initSys cfgA cfgB) pre))
    (hs : ∀ ev ∈ sch, ev.sendOK)
    (hen : Var.EnabledRun (runSys (initSys cfgA cfgB) sch) int) :
    let s0 := runSys (initSys cfgA cfgB) sch
    let s := runSys (initSys cfgA cfgB) (sch ++ int)
    int.length ≤ Var.mu s0
    ∧ (Var.Stuck s → s.a.closed = false → s.b.closed = false → s.a.inTerm = false → s.b.inTerm = false →
        s.b.rxLog = s.a.sendLog.map (fun it => (it.tid, it.data))
        ∧ (∀ it ∈ s.a.sendLog, it.tid ∈ s.a.successLog) ∧ s.a.txMap = []
        ∧ s.a.rxLog = s.b.sendLog.map (fun it => (it.tid, it.data))
        ∧ (∀ it ∈ s.b.sendLog, it.tid ∈ s.b.successLog) ∧ s.b.txMap = []) := by
  intro s0 s
  have hs' := Var.sendOK_append hs hen
  refine ⟨(C09_always_finishes cfgA cfgB sch int a1 a2 a3 b1 b2 b3 hpas hwf hs hen).1, ?_⟩
  intro hst hao hbo hta htb
  obtain ⟨hi, hw, ha, hb⟩ := reach_all cfgA cfgB (sch ++ int) a1 a2 a3 b1 b2 b3 hwf hs'
  obtain ⟨oa, ob, qa, qb⟩ := hst.spec
  obtain ⟨txA, pA, -⟩ := oa hao
  obtain ⟨txB, pB, -⟩ := ob hbo
  -- everything emitted has been processed by the other side, so both sides are in a session
  obtain ⟨pAB, -⟩ := quiet_wire s.a s.b s.toB ha hb hw.1 hi.wireB pB hao hbo txA
  obtain ⟨pBA, -⟩ := quiet_wire s.b s.a s.toA hb ha hw.2 hi.wireA pA hbo hao txB
  have hcfg : ¬ (s.a.cfg.passive = true ∧ s.b.cfg.passive = true) := by
    obtain ⟨c1, c2⟩ : s.a.cfg = cfgA ∧ s.b.cfg = cfgB := cfg_reach cfgA cfgB (sch ++ int)
    rw [c1, c2]; exact hpas
  obtain ⟨Pa, hPa⟩ := ha.inv.tx
  obtain ⟨Pb, hPb⟩ := hb.inv.tx
  obtain ⟨sa, sb⟩ := established_of_exchanged s.a s.b Pa Pb hPa hPb pAB pBA hcfg
  obtain ⟨ra, rb⟩ := sys_lift_init RxAckInv rxAckInv_step rxAckInv_init cfgA cfgB (sch ++ int)
  obtain ⟨dA, sA, mA⟩ := quiet_all_delivered s.a s.b s.toB s.toA ha hb rb hw.1 hw.2 hi.wireB hi.wireA hao hbo hta
    pB pA txA txB (qa sa)
  exact ⟨dA, sA, mA, quiet_all_delivered s.b s.a s.toA s.toB hb ha ra hw.2 hw.1 hi.wireA hi.wireB hbo hao htb
    pA pB txB txA (qb sb)⟩

/-! non-vacuity: the C01 example from the moment the bundle is queued, continued by 26 enabled internal
    events (variant 855 → 56: what is left is "open" and "SESS_TERM not sent yet" on both sides); at the
    end nothing is enabled, both endpoints are open, neither is terminating, and the bundle is
    delivered and acknowledged -/
namespace ExampleDeliver
def sch : List SysEv := Example.sched.take 12
def int : List SysEv :=
  [.atA (.pump 10240), .atA (.pump 10240), .atA (.pump 10240), .atB (.pump 10240), .atB (.pump 10240), .atB (.pump 10240),
   .atA .procQueue, .atA (.pump 10240), .atA (.pump 10240), .atA (.pump 10240), .deliverB 100,
   .atB (.pump 10240), .atB (.pump 10240), .atB (.pump 10240), .deliverA 100, .atA .procQueue,
   .atA (.pump 10240), .atA (.pump 10240), .atA (.pump 10240), .deliverB 100,
   .atB (.pump 10240), .atB (.pump 10240), .atB (.pump 10240), .deliverA 100, .atA .procQueue, .atB .procQueue]

example : (List.range ((sch ++ int).length + 1)).all
    (fun k => decide (SysWF (runSys (initSys Example.cfgA Example.cfgB) ((sch ++ int).take k)))) = true := by decide +kernel

example : let s0 := runSys (initSys Example.cfgA Example.cfgB) sch
    s0.a.txPendStart = [⟨1, [1, 2, 3]⟩] ∧ Var.EnabledRun s0 int ∧ Var.mu s0 = 855 := by decide +kernel

example : let s := runSys (initSys Example.cfgA Example.cfgB) (sch ++ int)
    s.a.closed = false ∧ s.b.closed = false ∧ s.a.inTerm = false ∧ s.b.inTerm = false
    ∧ (Var.cands.all fun ev => !decide (Var.Enabled s ev)) = true
    ∧ s.b.rxLog = [(1, [1, 2, 3])] ∧ s.a.successLog = [1] ∧ s.a.txMap = [] ∧ Var.mu s = 56 := by decide +kernel
end ExampleDeliver

end Tcpcl
end DtnVerif
